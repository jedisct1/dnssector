import DnsModel.Basic
import DnsModel.Generated.Constants
import DnsModel.Name
import DnsModel.Sector
import DnsModel.Packet
import DnsModel.Iter
import DnsModel.Dump
import DnsModel.Compress
import DnsModel.Renamer
import DnsModel.Mutate
import DnsModel.Script
import DnsModel.Synth
import DnsModel.Steps
import DnsModel.CAbi
import DnsModel.Threads
import DnsModel.Dispatch
import DnsModel.Spec.Wire
import DnsModel.Lemmas.Res
import DnsModel.Lemmas.Bytes
import DnsModel.Lemmas.NameWalk
import DnsModel.Lemmas.NameSpec
import DnsModel.Lemmas.Emit
import DnsModel.Lemmas.SectorTotal
import DnsModel.Theorems.C01
import DnsModel.Lemmas.Bits
import DnsModel.Lemmas.Header
import DnsModel.Lemmas.StepsErasure
import DnsModel.Lemmas.StepsBound
import DnsModel.Lemmas.PlainName
import DnsModel.Lemmas.ParseSpec
import DnsModel.Theorems.C02
import DnsModel.Lemmas.Decode
import DnsModel.Lemmas.Walk
import DnsModel.Lemmas.Layout
import DnsModel.Theorems.C03
import DnsModel.Theorems.C04
import DnsModel.Theorems.C05
import DnsModel.Theorems.C06
import DnsModel.Lemmas.Rebuild
import DnsModel.Theorems.C07
import DnsModel.Theorems.C08
import DnsModel.Theorems.C08Seq
import DnsModel.Theorems.C09
import DnsModel.Theorems.C10
import DnsModel.Theorems.C11
import DnsModel.Theorems.C12
import DnsModel.Theorems.C13
import DnsModel.Theorems.C14
import DnsModel.Theorems.C15
import DnsModel.Theorems.C16
import DnsModel.Theorems.C17
import DnsModel.Theorems.C18
