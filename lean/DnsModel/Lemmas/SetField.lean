/-
  A plain object with one record replaced by another piece (`replace_piece`, `overwrite_at`:
  what the in-place setters and the owner rename share), and the in-place setters `set_rr_ttl`, `set_rr_ip`
  through a cursor on a record of a plain object: exactly that field of that record changes.
-/
import DnsModel.Lemmas.PieceShape
namespace Dns
open Res

theorem PlainObj.replace_piece {pp : PP} (P : PlainObj pp) (sec : Section) (hs : sec.isRec = true) {ps1 ps2 : List Bytes} {rc : Bytes}
    (hsplit : P.lst sec = ps1 ++ rc :: ps2) (rc' : Bytes)
    (hps : Pieces sec (ps1 ++ rc' :: ps2) (P.fin sec) (P.fout sec))
    {pre post : Bytes} (hpre : pp.packet = pre ++ rc ++ post) (hprel : pre.length = P.start sec + ps1.flatten.length)
    (pp' : PP) (hpk : pp'.packet = pre ++ rc' ++ post) (hq : pp'.offsetQuestion = pp.offsetQuestion)
    (hmc : pp'.maybeCompressed = false) (f : Nat → Nat)
    (hf : ∀ x, P.start sec + ps1.flatten.length + rc.length ≤ x → f x = x + rc'.length - rc.length)
    (hoff : ∀ s, s.isRec = true → pp'.secOff s = if sec.before s then (pp.secOff s).map f else pp.secOff s) :
    ∃ P' : PlainObj pp', P'.lst sec = ps1 ++ rc' :: ps2 ∧ (∀ s, s ≠ sec → P'.lst s = P.lst s) ∧ P'.qls = P.qls ∧ P'.q4 = P.q4 ∧
      P'.hdr = P.hdr := by
  obtain ⟨e, hl⟩ := P.bytes_rec sec hs hsplit
  obtain ⟨e1, e2⟩ := split_unique (hpre.symm.trans e) (hprel.trans hl.symm)
  have hfl := mid_flatten ps1 ps2 rc
  have hfl' := mid_flatten ps1 ps2 rc'
  rw [← hsplit] at hfl
  have hlen : (ps1 ++ rc' :: ps2).length = (P.lst sec).length := by
    rw [hsplit, List.length_append, List.length_append]; rfl
  refine P.update sec hs hps P.hh (by rw [P.count sec hs, hlen]) (fun _ _ => rfl)
    (fun h0 hna => by
      have := P.lst_nil_of_query h0 sec hna
      rw [hsplit] at this
      exact absurd (List.append_eq_nil_iff.1 this).2 (List.cons_ne_nil _ _))
    (by rw [hpk, e1, e2, flatten_mid]; simp only [List.append_assoc]) hq hmc
    (by rw [hoff sec hs, Section.before_irrefl, if_neg Bool.false_ne_true, P.secOff sec hs, hlen])
    (fun x hx => by rw [hf x (by omega)]; omega) (fun s hs' _ => hoff s hs')

/-- `replace_piece` with the moved starts written out field by field -/
theorem PlainObj.replace_at {pp : PP} (P : PlainObj pp) (sec : Section) (hs : sec.isRec = true) {ps1 ps2 : List Bytes} {rc : Bytes}
    (hsplit : P.lst sec = ps1 ++ rc :: ps2) (rc' : Bytes)
    (hps : Pieces sec (ps1 ++ rc' :: ps2) (P.fin sec) (P.fout sec))
    {pre post : Bytes} (hpre : pp.packet = pre ++ rc ++ post) (hprel : pre.length = P.start sec + ps1.flatten.length)
    (pp' : PP) (hpk : pp'.packet = pre ++ rc' ++ post) (hq : pp'.offsetQuestion = pp.offsetQuestion)
    (ha : pp'.offsetAnswers = pp.offsetAnswers)
    (hn : pp'.offsetNameservers = if sec = .answer then pp.offsetNameservers.map (fun x => x + rc'.length - rc.length) else pp.offsetNameservers)
    (hr : pp'.offsetAdditional = if sec = .additional then pp.offsetAdditional else pp.offsetAdditional.map (fun x => x + rc'.length - rc.length))
    (hmc : pp'.maybeCompressed = false) :
    ∃ P' : PlainObj pp', P'.lst sec = ps1 ++ rc' :: ps2 ∧ (∀ s, s ≠ sec → P'.lst s = P.lst s) ∧ P'.qls = P.qls ∧ P'.q4 = P.q4 ∧
      P'.hdr = P.hdr :=
  P.replace_piece sec hs hsplit rc' hps hpre hprel pp' hpk hq hmc (fun x => x + rc'.length - rc.length) (fun _ _ => rfl)
    (fun s hs' => by
      rcases Section.isRec_cases hs' with rfl | rfl | rfl
      · rcases Section.isRec_cases hs with rfl | rfl | rfl <;> exact ha
      · rcases Section.isRec_cases hs with rfl | rfl | rfl <;> exact hn
      · rcases Section.isRec_cases hs with rfl | rfl | rfl <;> exact hr)

theorem PlainObj.overwrite_at {pp : PP} (P : PlainObj pp) (sec : Section) (hs : sec.isRec = true) {ps1 ps2 : List Bytes} {rc : Bytes}
    (hsplit : P.lst sec = ps1 ++ rc :: ps2) (rc' : Bytes) (hlen : rc'.length = rc.length)
    (hps : Pieces sec (ps1 ++ rc' :: ps2) (P.fin sec) (P.fout sec))
    {pre post : Bytes} (hpre : pp.packet = pre ++ rc ++ post) (hprel : pre.length = P.start sec + ps1.flatten.length)
    {x : Bytes} (hx : x = pre ++ rc' ++ post) :
    ∃ P' : PlainObj { pp with packet := x }, P'.lst sec = ps1 ++ rc' :: ps2 ∧ (∀ s, s ≠ sec → P'.lst s = P.lst s) ∧
      P'.qls = P.qls ∧ P'.q4 = P.q4 ∧ P'.hdr = P.hdr :=
  P.replace_piece sec hs hsplit rc' hps hpre hprel { pp with packet := x } hx rfl P.mc (fun x => x) (fun x _ => by omega)
    (fun s _ => by rw [Option.map_id']; exact (ite_self _).symm)

theorem put32_length (v : Nat) : (put32 v).length = 4 := rfl

theorem PlainObj.set_ttl {pp : PP} (P : PlainObj pp) (sec : Section) (hs : sec.isRec = true) {ps1 ps2 : List Bytes} {rc : Bytes}
    (hsplit : P.lst sec = ps1 ++ rc :: ps2) (c : Cursor) {ne : Nat} {ob oa : Bool}
    (hr : RRAtPos pp.packet sec ⟨P.start sec + ps1.flatten.length, ne, P.start sec + ps1.flatten.length + rc.length⟩ ob oa)
    (hoff : c.offset = some (P.start sec + ps1.flatten.length)) (hne : c.nameEnd = ne) (h41 : get16 pp.packet ne ≠ 41) (ttl : Nat) :
    ∃ (owner : List (List UInt8)) (f8 rd : Bytes) (pp' : PP) (P' : PlainObj pp'),
      rc = (encLabels owner ++ [0]) ++ f8 ++ put16 rd.length ++ rd ∧ f8.length = 8 ∧
      setRrTtl pp c ttl = .ok pp' ∧
      P'.lst sec = ps1 ++ ((encLabels owner ++ [0]) ++ (f8.take 4 ++ put32 ttl) ++ put16 rd.length ++ rd) :: ps2 ∧
      (∀ s, s ≠ sec → P'.lst s = P.lst s) ∧ P'.qls = P.qls ∧ P'.q4 = P.q4 ∧ P'.hdr = P.hdr ∧
      pp' = { pp with packet := pp'.packet } ∧ GoodLabels owner ∧ get16 f8 0 ≠ 41 := by
  obtain ⟨owner, f8, rd, pre, post, hpk, hprel, hrc, hgo, hf8, hlt, hnon, hne', hty⟩ := P.shape_at sec hs hsplit hr
  rw [hty] at h41
  obtain ⟨hpl, hrep⟩ := hnon h41
  have hf8' : (f8.take 4 ++ put32 ttl).length = 8 := by rw [List.length_append, List.length_take, put32_length]; omega
  have hty' : get16 (f8.take 4 ++ put32 ttl) 0 = get16 f8 0 := by
    rw [get16_append_left (by rw [List.length_take]; omega), get16_take (by omega)]
  have hps := hrep _ fun b => piece_of_shape sec owner _ rd hgo hf8' hlt (by rw [hty']; exact h41) (by rw [hty']; exact hpl) b
  -- the four bytes written are the second half of the fixed part
  have hrc2 : rc = ((encLabels owner ++ [0]) ++ f8.take 4) ++ f8.drop 4 ++ (put16 rd.length ++ rd) := by
    rw [hrc]; conv => lhs; rw [← List.take_append_drop 4 f8]
    simp only [List.append_assoc]
  have hw := writeAt_inside pre post ((encLabels owner ++ [0]) ++ f8.take 4) (f8.drop 4) (put16 rd.length ++ rd) (put32 ttl)
    (by rw [put32_length, List.length_drop]; omega)
  rw [← hrc2, ← hpk, List.length_append, encLen_eq, List.length_take, hf8] at hw
  have hrun : setRrTtl pp c ttl = .ok { pp with packet := pre ++ ((encLabels owner ++ [0]) ++ f8.take 4 ++ put32 ttl ++ (put16 rd.length ++ rd)) ++ post } := by
    have hfit : ne ≤ pp.packet.length := by have := hr.2.1; simp only at this; omega
    have hsl : sliceFrom pp.packet ne = .ok (pp.packet.drop ne) := if_pos hfit
    have hoffs : ne + DNS_RR_TTL_OFFSET = pre.length + (labSum owner + 1 + min 4 8) := by rw [hne']; rfl
    unfold setRrTtl
    simp only [hoff, unwrap, bind_ok, hne, hsl, hoffs, hw, pure_eq]
  obtain ⟨P', f1, f2, f3, f4, f5⟩ := P.overwrite_at sec hs hsplit
    ((encLabels owner ++ [0]) ++ (f8.take 4 ++ put32 ttl) ++ put16 rd.length ++ rd)
    (by rw [hrc, piece_length owner hf8, piece_length owner hf8']) hps hpk hprel
    (x := pre ++ ((encLabels owner ++ [0]) ++ f8.take 4 ++ put32 ttl ++ (put16 rd.length ++ rd)) ++ post)
    (by simp only [List.append_assoc])
  exact ⟨owner, f8, rd, _, P', hrc, hf8, hrun, f1, f2, f3, f4, f5, rfl, hgo, h41⟩

theorem PlainObj.set_ip {pp : PP} (P : PlainObj pp) (sec : Section) (hs : sec.isRec = true) {ps1 ps2 : List Bytes} {rc : Bytes}
    (hsplit : P.lst sec = ps1 ++ rc :: ps2) (c : Cursor) {ne : Nat} {ob oa : Bool}
    (hr : RRAtPos pp.packet sec ⟨P.start sec + ps1.flatten.length, ne, P.start sec + ps1.flatten.length + rc.length⟩ ob oa)
    (hoff : c.offset = some (P.start sec + ps1.flatten.length)) (hne : c.nameEnd = ne) (ip : Bytes)
    (hfam : (get16 pp.packet ne = 1 ∧ ip.length = 4) ∨ (get16 pp.packet ne = 28 ∧ ip.length = 16)) :
    ∃ (owner : List (List UInt8)) (f8 rd : Bytes) (pp' : PP) (P' : PlainObj pp'),
      rc = (encLabels owner ++ [0]) ++ f8 ++ put16 rd.length ++ rd ∧ f8.length = 8 ∧ rd.length = ip.length ∧
      setRrIp pp c ip = .ok (pp', none) ∧
      P'.lst sec = ps1 ++ ((encLabels owner ++ [0]) ++ f8 ++ put16 rd.length ++ ip) :: ps2 ∧
      (∀ s, s ≠ sec → P'.lst s = P.lst s) ∧ P'.qls = P.qls ∧ P'.q4 = P.q4 ∧ P'.hdr = P.hdr ∧
      pp' = { pp with packet := pp'.packet } ∧ GoodLabels owner ∧ get16 f8 0 ≠ 41 := by
  obtain ⟨owner, f8, rd, pre, post, hpk, hprel, hrc, hgo, hf8, hlt, hnon, hne', hty⟩ := P.shape_at sec hs hsplit hr
  rw [hty] at hfam
  have h41 : get16 f8 0 ≠ 41 := by rcases hfam with ⟨h, _⟩ | ⟨h, _⟩ <;> omega
  obtain ⟨hpl, hrep⟩ := hnon h41
  -- the data of an A / AAAA record are the address, and any address of that length will do
  have hfam' : rd.length = ip.length ∧ RdPlainI (get16 f8 0) ip := by
    unfold RdPlainI at hpl ⊢
    rcases hfam with ⟨h, hl⟩ | ⟨h, hl⟩ <;> simp [h, hl] at hpl ⊢ <;> omega
  obtain ⟨hrdl, hpl'⟩ := hfam'
  have hps := hrep _ fun b => hrdl ▸ piece_of_shape sec owner f8 ip hgo hf8 (by omega) h41 hpl' b
  have hrc2 : rc = ((encLabels owner ++ [0]) ++ f8 ++ put16 rd.length) ++ rd ++ [] := by rw [hrc, List.append_nil]
  have hw := writeAt_inside pre post ((encLabels owner ++ [0]) ++ f8 ++ put16 rd.length) rd [] ip hrdl.symm
  rw [← hrc2, ← hpk, List.length_append, List.length_append, encLen_eq, hf8] at hw
  have h10 := hr.2.1
  have hnx := hr.pos_len.2.2
  simp only at h10 hnx
  have hty2 : c.rrType pp.packet = .ok (get16 f8 0) := by
    rw [rrType_at (p := pp.packet) (c := c) hoff (by rw [hne]; exact h10), hne, hty]
  have hsl : sliceFrom pp.packet ne = .ok (pp.packet.drop ne) := if_pos (by omega)
  have hrcl : rc.length = labSum owner + 1 + 8 + 2 + rd.length := by rw [hrc, piece_length owner hf8]
  have hrun : setRrIp pp c ip = .ok ({ pp with packet := pre ++ ((encLabels owner ++ [0]) ++ f8 ++ put16 rd.length ++ ip ++ []) ++ post }, none) := by
    have hoffs : ne + DNS_RR_HEADER_SIZE = pre.length + (labSum owner + 1 + 8 + (put16 rd.length).length) := by rw [hne']; rfl
    have c3 : ∀ n, ip.length = n → decide ((pp.packet.drop ne).length ≥ DNS_RR_HEADER_SIZE + n) = true := fun n hn => by
      rw [List.length_drop, decide_eq_true_eq]
      show 10 + n ≤ _
      omega
    unfold setRrIp
    rcases hfam with ⟨h, hl⟩ | ⟨h, hl⟩
    · have c1 : (get16 f8 0 == TYPE_A) = true := by rw [h]; rfl
      have c2 : (ip.length == 4) = true := by rw [hl]; rfl
      simp only [hty2, bind_ok, c1, if_true, c2, hne, hsl, assert, c3 4 hl, hoffs, hw, pure_eq]
    · have c1 : (get16 f8 0 == TYPE_A) = false := by rw [h]; rfl
      have c1' : (get16 f8 0 == TYPE_AAAA) = true := by rw [h]; rfl
      have c2 : (ip.length == 16) = true := by rw [hl]; rfl
      simp only [hty2, bind_ok, c1, c1', Bool.false_eq_true, if_false, if_true, c2, hne, hsl, assert, c3 16 hl, hoffs, hw, pure_eq]
  obtain ⟨P', f1, f2, f3, f4, f5⟩ := P.overwrite_at sec hs hsplit ((encLabels owner ++ [0]) ++ f8 ++ put16 rd.length ++ ip)
    (by rw [hrc, piece_length owner hf8, piece_length owner hf8, hrdl]) hps hpk hprel
    (x := pre ++ ((encLabels owner ++ [0]) ++ f8 ++ put16 rd.length ++ ip ++ []) ++ post) (by rw [List.append_nil])
  exact ⟨owner, f8, rd, _, P', hrc, hf8, hrdl, hrun, f1, f2, f3, f4, f5, rfl, hgo, h41⟩

theorem setRrIp_failure (pp pp' : PP) (c : Cursor) (ip : Bytes) (e : Err) (h : setRrIp pp c ip = .ok (pp', some e)) : pp' = pp := by
  -- the branch that writes reports no error
  have hw : ∀ n : Nat, (do
      let rd ← sliceFrom pp.packet c.nameEnd
      assert (rd.length ≥ DNS_RR_HEADER_SIZE + n)
      let p ← writeAt pp.packet (c.nameEnd + DNS_RR_HEADER_SIZE) ip
      pure (({ pp with packet := p } : PP), (none : Option Err))) = Res.ok (pp', some e) → False := by
    intro n h
    obtain ⟨_, _, h⟩ := bind_eq_ok.1 h
    obtain ⟨_, _, h⟩ := bind_eq_ok.1 h
    obtain ⟨_, _, h⟩ := bind_eq_ok.1 h
    cases h
  unfold setRrIp at h
  obtain ⟨t, _, h⟩ := bind_eq_ok.1 h
  split at h
  · split at h
    · exact (hw 4 h).elim
    · cases h; rfl
  · split at h
    · split at h
      · exact (hw 16 h).elim
      · cases h; rfl
    · cases h; rfl

theorem setRrIp_refused {pp : PP} {c : Cursor} {ip : Bytes} {t : Nat} (hty : c.rrType pp.packet = .ok t)
    (hfam : ¬ ((t = 1 ∧ ip.length = 4) ∨ (t = 28 ∧ ip.length = 16))) : ∃ e, setRrIp pp c ip = .ok (pp, some e) := by
  unfold setRrIp
  rw [hty, bind_ok]
  by_cases h1 : t = 1
  · have h4 : ¬ (ip.length == 4) = true := fun h4 => hfam (.inl ⟨h1, by simpa using h4⟩)
    rw [if_pos (by rw [h1]; rfl), if_neg h4]
    exact ⟨_, rfl⟩
  · rw [if_neg (by simpa [TYPE_A] using h1)]
    by_cases h28 : t = 28
    · have h16 : ¬ (ip.length == 16) = true := fun h16 => hfam (.inr ⟨h28, by simpa using h16⟩)
      rw [if_pos (by rw [h28]; rfl), if_neg h16]
      exact ⟨_, rfl⟩
    · rw [if_neg (by simpa [TYPE_AAAA] using h28)]
      exact ⟨_, rfl⟩

end Dns
