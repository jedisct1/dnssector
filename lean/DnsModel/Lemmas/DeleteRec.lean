/-
  `resize_rr` and `delete` on an object whose flag is cleared, step by step: what the
  buffer becomes, what the bookkeeping does to the recorded starts and to the EDNS summary.
-/
import DnsModel.Lemmas.PlainObj
namespace Dns
open Res

theorem currentSection_frame (pp : PP) (c : Cursor) (x : Bytes) (n : Nat) :
    Cursor.currentSection { pp with packet := x } { c with offsetNext := n } = Cursor.currentSection pp c := rfl

theorem shiftNat_neg (x len : Nat) : shiftNat x (-(Int.ofNat len)) = x - len := by
  unfold shiftNat
  simp only [Int.ofNat_eq_natCast]
  omega

theorem shiftNat_sub (x nw cur : Nat) : shiftNat x (Int.ofNat nw - Int.ofNat cur) = x + nw - cur := by
  unfold shiftNat
  simp only [Int.ofNat_eq_natCast]
  omega

theorem shiftNat_zero (x : Nat) : shiftNat x 0 = x := by simp [shiftNat]

/-- the buffer part of `resize_rr` (`none`: refused for size).  A verbatim copy of the block `let r := …` of `resizeRR`
(Mutate.lean): `resizeRR_ok` unfolds both and needs the two texts to match -/
def resizeBytes (p : Bytes) (offset : Nat) (shift : Int) : Res (Option Bytes) :=
  if shift > 0 then
    let sh := shift.toNat
    if p.length + sh > 0xffff then pure none
    else if offset ≤ p.length then
      pure (some (p.take offset ++ (p.drop offset).take sh ++ List.replicate (sh - (p.length - offset)) 0 ++ p.drop offset))
    else .panic
  else
    let sh := (-shift).toNat
    if p.length < sh then .panic
    else if offset + sh > p.length then .panic
    else pure (some (p.take offset ++ p.drop (offset + sh)))

theorem resizeBytes_shrink {p : Bytes} {off len : Nat} (hle : off + len ≤ p.length) :
    resizeBytes p off (-(Int.ofNat len)) = .ok (some (p.take off ++ p.drop (off + len))) := by
  have hpos : ¬ (-(len : Int) > 0) := by omega
  have c1 : ¬ (p.length < len) := by omega
  have c2 : ¬ (off + len > p.length) := by omega
  simp only [resizeBytes, hpos, if_false, Int.neg_neg, Int.ofNat_eq_natCast, Int.toNat_natCast, c1, c2, pure_eq]

theorem resizeBytes_grow {p : Bytes} {off sh : Nat} (hsh : 0 < sh) (hsize : p.length + sh ≤ 65535) (hle : off ≤ p.length) :
    resizeBytes p off (Int.ofNat sh) =
      .ok (some (p.take off ++ (p.drop off).take sh ++ List.replicate (sh - (p.length - off)) 0 ++ p.drop off)) := by
  have hpos : (sh : Int) > 0 := by omega
  have c1 : ¬ (p.length + sh > 0xffff) := by omega
  simp only [resizeBytes, hpos, if_true, Int.ofNat_eq_natCast, Int.toNat_natCast, c1, if_false, hle, pure_eq]

theorem resizeBytes_too_large {p : Bytes} {off sh : Nat} (hsh : 0 < sh) (hbig : p.length + sh > 65535) :
    resizeBytes p off (Int.ofNat sh) = .ok none := by
  have hpos : (sh : Int) > 0 := by omega
  have c1 : p.length + sh > 0xffff := hbig
  simp only [resizeBytes, hpos, if_true, Int.ofNat_eq_natCast, Int.toNat_natCast, c1, pure_eq]

theorem take_pad_length (l : Bytes) (n : Nat) : (l.take n ++ List.replicate (n - l.length) 0).length = n := by
  rw [List.length_append, List.length_take, List.length_replicate]; omega

theorem resizeBytes_length {p : Bytes} {off : Nat} {shift : Int} {x : Bytes} (h : resizeBytes p off shift = .ok (some x)) :
    (x.length : Int) = p.length + shift := by
  simp only [resizeBytes, pure_eq] at h
  split at h
  · split at h
    · cases h
    · split at h
      · cases h
        have h1 := take_pad_length (p.drop off) shift.toNat
        have h2 := congrArg List.length (List.take_append_drop off p)
        rw [List.length_drop] at h1
        rw [List.length_append] at h2
        rw [List.append_assoc (p.take off), List.length_append, List.length_append, h1]
        omega
      · cases h
  · split at h
    · cases h
    · split at h
      · cases h
      · cases h
        rw [List.length_append, List.length_take_of_le (by omega), List.length_drop]
        omega

/-- the object `resize_rr` leaves: new bytes, later starts shifted -/
def PP.afterResize (pp : PP) (c : Cursor) (sect : Section) (shift : Int) (newPacket : Bytes) : PP :=
  let sh (o : Option Nat) : Option Nat := o.map (fun x => shiftNat x shift)
  let pp := { pp with packet := newPacket }
  let pp := if optLt c.offset pp.offsetEdns then { pp with offsetEdns := sh pp.offsetEdns } else pp
  let pp := if sect == .nameServers || sect == .answer || sect == .question
            then { pp with offsetAdditional := sh pp.offsetAdditional } else pp
  let pp := if sect == .answer || sect == .question
            then { pp with offsetNameservers := sh pp.offsetNameservers } else pp
  if sect == .question then { pp with offsetAnswers := sh pp.offsetAnswers } else pp

/-- `PP.afterResize` field by field (`afterResize_eq`) -/
def PP.resized (pp : PP) (off : Option Nat) (sect : Section) (f : Nat → Nat) (x : Bytes) : PP :=
  { pp with packet := x,
            offsetAnswers := if sect.before .answer then pp.offsetAnswers.map f else pp.offsetAnswers,
            offsetNameservers := if sect.before .nameServers then pp.offsetNameservers.map f else pp.offsetNameservers,
            offsetAdditional := if sect.before .additional then pp.offsetAdditional.map f else pp.offsetAdditional,
            offsetEdns := if optLt off pp.offsetEdns then pp.offsetEdns.map f else pp.offsetEdns }

theorem afterResize_eq (pp : PP) (c : Cursor) (sect : Section) (shift : Int) (x : Bytes) :
    pp.afterResize c sect shift x = pp.resized c.offset sect (fun x => shiftNat x shift) x := by
  unfold PP.afterResize PP.resized
  by_cases h : optLt c.offset pp.offsetEdns = true
  · simp only [h, if_true]; cases sect <;> rfl
  · simp only [h]; cases sect <;> rfl

theorem afterResize_zero (pp : PP) (c : Cursor) (sect : Section) : pp.afterResize c sect 0 pp.packet = pp := by
  have hm : ∀ o : Option Nat, o.map (fun x => shiftNat x 0) = o := fun o => by
    cases o <;> simp only [Option.map_none, Option.map_some, shiftNat_zero]
  rw [afterResize_eq]
  simp only [PP.resized, hm, ite_self]

theorem resized_secOff (pp : PP) (off : Option Nat) (sect : Section) (f : Nat → Nat) (x : Bytes) (s : Section) (hs : s.isRec = true) :
    (pp.resized off sect f x).secOff s = if sect.before s then (pp.secOff s).map f else pp.secOff s := by
  rcases Section.isRec_cases hs with rfl | rfl | rfl <;> rfl

theorem resizeRR_ok (pp : PP) (c : Cursor) {off : Nat} {shift : Int} {x : Bytes} {sect : Section} (hoff : c.offset = some off)
    (hz : shift ≠ 0) (hr : resizeBytes pp.packet off shift = .ok (some x)) {n : Nat}
    (hn : (c.offsetNext : Int) + shift = (n : Int)) (hnx : c.offsetNext ≤ pp.packet.length) (hcs : c.currentSection pp = .ok sect) :
    resizeRR pp c shift = .ok { pp := pp.afterResize c sect shift x, cur := { c with offsetNext := n }, result := none } := by
  obtain ⟨sec, o, nx, ne, rl⟩ := c
  change o = some off at hoff
  subst hoff
  have hz' : (shift == 0) = false := beq_eq_false_iff_ne.2 hz
  have hxl := resizeBytes_length hr
  change (nx : Int) + shift = n at hn
  change nx ≤ _ at hnx
  have c3 : (decide ((n : Int) < 0) || decide (n > x.length)) = false := by
    simp only [Bool.or_eq_false_iff, decide_eq_false_iff_not]
    omega
  -- `current_section` reads neither the bytes nor the cursor's end
  have key : Cursor.currentSection { pp with packet := x } ⟨sec, some off, n, ne, rl⟩ = .ok sect := hcs
  unfold resizeBytes at hr
  unfold resizeRR
  simp only [hz', Bool.false_eq_true, if_false, hr, bind_ok, Int.ofNat_eq_natCast, hn, c3, Int.toNat_natCast, key]
  rfl

theorem resizeRR_too_large (pp : PP) (c : Cursor) (off sh : Nat) (hoff : c.offset = some off) (hsh : 0 < sh)
    (hbig : pp.packet.length + sh > 65535) :
    resizeRR pp c (Int.ofNat sh) = .ok { pp := pp, cur := c, result := some .packetTooLarge } := by
  have hz : (Int.ofNat sh == 0) = false := beq_eq_false_iff_ne.2 (by simp only [Int.ofNat_eq_natCast]; omega)
  have hr := resizeBytes_too_large (p := pp.packet) (off := off) hsh hbig
  unfold resizeBytes at hr
  unfold resizeRR
  simp only [hz, Bool.false_eq_true, if_false, hoff, hr, bind_ok, mErr]

theorem rrcountDec_ok (s : Section) (hs : s ≠ .edns) {hdr rest : Bytes} (hh : hdr.length = 12)
    (hpos : 0 < get16 hdr (sectionCountOffset s)) :
    ∃ hdr' : Bytes, hdr'.length = 12 ∧ get16 hdr' (sectionCountOffset s) = get16 hdr (sectionCountOffset s) - 1 ∧
      (∀ k, (k + 1 < sectionCountOffset s ∨ sectionCountOffset s + 1 < k) → get16 hdr' k = get16 hdr k) ∧
      ∀ pp : PP, pp.packet = hdr ++ rest →
        rrcountDec pp s = .ok ({ pp with packet := hdr' ++ rest }, get16 hdr (sectionCountOffset s) - 1) := by
  have hlt : get16 hdr (sectionCountOffset s) < 65536 := get16_lt _ _
  obtain ⟨hdr', hw, hh', hg, hgo⟩ := patch_header (rest := rest) hh (sectionCountOffset s)
    (get16 hdr (sectionCountOffset s) - 1) (sectionCountOffset_le s) (by omega)
  refine ⟨hdr', hh', hg, hgo, fun pp hpk => ?_⟩
  unfold rrcountDec
  rw [hpk, sectionCount_hdr hh s hs]
  simp only [bind_ok, Nat.not_le.2 hpos, if_false, hw, pure_eq]

/-- the object `delete` leaves: the bookkeeping of `resize_rr`; the section's start forgotten when it is emptied; the
EDNS summary reset when the record was the OPT record -/
def PP.afterDelete (pp : PP) (c : Cursor) (sect : Section) (len : Nat) (isOpt : Bool) (x : Bytes) (left : Nat) : PP :=
  let start (s : Section) : Option Nat :=
    if s = sect then (if left = 0 then none else pp.secOff s)
    else if sect.before s then (pp.secOff s).map (fun x => shiftNat x (-(Int.ofNat len))) else pp.secOff s
  { packet := x, offsetQuestion := pp.offsetQuestion, offsetAnswers := start .answer, offsetNameservers := start .nameServers,
    offsetAdditional := start .additional,
    offsetEdns := if isOpt then none else if optLt c.offset pp.offsetEdns then
      pp.offsetEdns.map (fun x => shiftNat x (-(Int.ofNat len))) else pp.offsetEdns,
    ednsCount := if isOpt then 0 else pp.ednsCount, extRcode := if isOpt then none else pp.extRcode,
    ednsVersion := if isOpt then none else pp.ednsVersion, extFlags := if isOpt then none else pp.extFlags,
    maybeCompressed := pp.maybeCompressed, maxPayload := if isOpt then 512 else pp.maxPayload, cached := none }

theorem afterDelete_secOff (pp : PP) (c : Cursor) (sect : Section) (len : Nat) (isOpt : Bool) (x : Bytes) (left : Nat)
    (s : Section) (hs : s.isRec = true) :
    (pp.afterDelete c sect len isOpt x left).secOff s =
      if s = sect then (if left = 0 then none else pp.secOff s)
      else if sect.before s then (pp.secOff s).map (fun x => shiftNat x (-(Int.ofNat len))) else pp.secOff s := by
  rcases Section.isRec_cases hs with rfl | rfl | rfl <;> rfl

theorem deleteRR_run (pp : PP) (c : Cursor) (off : Nat) (sect : Section) (isOpt : Bool) {hdr rest : Bytes}
    (hoff : c.offset = some off) (hcs : c.currentSection pp = .ok sect) (hs : sect.isRec = true) (hmc : pp.maybeCompressed = false)
    (hopt : (if sect == .additional then do let t ← c.rrType pp.packet; pure (t == TYPE_OPT) else pure false) = Res.ok isOpt)
    (hlt : off < c.offsetNext) (hle : c.offsetNext ≤ pp.packet.length)
    (hcut : pp.packet.take off ++ pp.packet.drop c.offsetNext = hdr ++ rest) (hh : hdr.length = 12)
    (hpos : 0 < get16 hdr (sectionCountOffset sect)) :
    ∃ hdr' : Bytes, hdr'.length = 12 ∧ get16 hdr' (sectionCountOffset sect) = get16 hdr (sectionCountOffset sect) - 1 ∧
      (∀ k, (k + 1 < sectionCountOffset sect ∨ sectionCountOffset sect + 1 < k) → get16 hdr' k = get16 hdr k) ∧
      deleteRR pp c = .ok { pp := pp.afterDelete c sect (c.offsetNext - off) isOpt (hdr' ++ rest) (get16 hdr (sectionCountOffset sect) - 1),
                            cur := { c with offsetNext := off, offset := none }, result := none } := by
  obtain ⟨sec, o, nx, ne, rl⟩ := c
  change o = some off at hoff
  subst hoff
  change off < nx at hlt
  change nx ≤ _ at hle
  have hrs := resizeRR_ok pp ⟨sec, some off, nx, ne, rl⟩ (n := off) (x := hdr ++ rest) (sect := sect) rfl
    (shift := -(Int.ofNat (nx - off))) (by simp only [Int.ofNat_eq_natCast]; omega)
    (by rw [resizeBytes_shrink (by omega), Nat.add_sub_cancel' (Nat.le_of_lt hlt)]; exact congrArg (fun b => Res.ok (some b)) hcut)
    (by simp only [Int.ofNat_eq_natCast]; omega) hle hcs
  rw [afterResize_eq] at hrs
  unfold PP.resized at hrs
  obtain ⟨hdr', hh', hg, hgo, hd⟩ := rrcountDec_ok sect (Section.ne_edns_of_isRec hs) (rest := rest) hh hpos
  refine ⟨hdr', hh', hg, hgo, ?_⟩
  have hgt : decide (nx - off > 0) = true := decide_eq_true (by omega)
  simp only [pure_eq] at hopt
  have hmc' : ¬ pp.maybeCompressed = true := by rw [hmc]; exact Bool.false_ne_true
  unfold deleteRR
  rw [if_neg hmc']
  simp only [Option.isNone_some, Bool.false_eq_true, if_false, hcs, mOk, bind_ok, Option.isSome_none, pure_eq,
    unwrap, hopt, sub_ok (Nat.le_of_lt hlt), assert, hgt, if_true, hrs, Nat.le_zero_eq]
  -- `PP.afterDelete` is written to be literally what `deleteRR` computes, so each of the 12 cases closes by `rfl`
  cases isOpt <;> simp only [Bool.false_eq_true, if_true, if_false, hd, bind_ok, PP.afterDelete] <;>
    by_cases h0 : get16 hdr (sectionCountOffset sect) - 1 = 0 <;> simp only [h0, if_true, if_false] <;>
    rcases Section.isRec_cases hs with rfl | rfl | rfl <;> rfl

end Dns
