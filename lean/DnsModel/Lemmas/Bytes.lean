/-
  Facts about byte strings that need nothing but lists: windows `(p.drop a).take n` of a byte string
  and what lies in them; bytes and 16-bit words read from an append; 16-bit words and their two bytes.
-/
import DnsModel.Lemmas.Res
namespace Dns

theorem byteAt_append_left {p q : Bytes} {i b : Nat} (h : byteAt p i = some b) : byteAt (p ++ q) i = some b := by
  have hlt := byteAt_lt_length h
  unfold byteAt at *
  rw [List.getElem?_append_left hlt]; exact h

theorem byteAt_append_right {p q : Bytes} {i : Nat} : byteAt (p ++ q) (p.length + i) = byteAt q i := by
  unfold byteAt
  rw [List.getElem?_append_right (by omega)]
  congr 2; omega

theorem byteAt_append_right0 {p q : Bytes} : byteAt (p ++ q) p.length = byteAt q 0 := by
  have := byteAt_append_right (p := p) (q := q) (i := 0)
  simpa using this

theorem byteAt_cons_zero (x : UInt8) (q : Bytes) : byteAt (x :: q) 0 = some x.toNat := by
  unfold byteAt; simp

theorem getB_append_right (a b : Bytes) (i : Nat) : getB (a ++ b) (a.length + i) = getB b i := by
  unfold getB byteAt
  rw [List.getElem?_append_right (Nat.le_add_right _ _), Nat.add_sub_cancel_left]

theorem get16_append_left {a b : Bytes} {i : Nat} (h : i + 2 ≤ a.length) : get16 (a ++ b) i = get16 a i := by
  unfold get16 getB byteAt
  rw [List.getElem?_append_left (by omega), List.getElem?_append_left (by omega)]

theorem get16_append_right (a b : Bytes) (i : Nat) : get16 (a ++ b) (a.length + i) = get16 b i := by
  unfold get16
  rw [getB_append_right, Nat.add_assoc, getB_append_right]

theorem get16_take {l : Bytes} {n i : Nat} (h : i + 2 ≤ n) : get16 (l.take n) i = get16 l i := by
  unfold get16 getB byteAt
  rw [List.getElem?_take_of_lt (by omega), List.getElem?_take_of_lt (by omega)]

theorem length_take_drop {p : Bytes} {a n : Nat} (h : a + n ≤ p.length) : ((p.drop a).take n).length = n := by
  rw [List.length_take, List.length_drop]; omega

theorem window_split (p : Bytes) (a b c : Nat) :
    (p.drop a).take (b + c) = (p.drop a).take b ++ (p.drop (a + b)).take c := by
  rw [List.take_add, List.drop_drop]

theorem window_eq {u A w B : Bytes} (h : u = A ++ w ++ B) : (u.drop A.length).take w.length = w := by
  subst h
  rw [List.append_assoc, List.drop_append_length, List.take_append_length]

theorem window_at {u A w B : Bytes} {a n : Nat} (h : A ++ w ++ B = u) (ha : A.length = a) (hn : w.length = n) :
    (u.drop a).take n = w := by
  subst h ha hn
  exact window_eq rfl

theorem window_byteAt {p w : Bytes} {off n : Nat} (h : (p.drop off).take n = w) {i : Nat} (hi : i < n) :
    byteAt p (off + i) = byteAt w i := by
  subst h
  unfold byteAt
  simp [List.getElem?_take, List.getElem?_drop, hi]

theorem window_cons {p : Bytes} {k : Nat} {a : UInt8} {xs : Bytes} (h : (p.drop k).take (xs.length + 1) = a :: xs) :
    idx p k = .ok a.toNat ∧ (p.drop (k + 1)).take xs.length = xs := by
  constructor
  · have := window_byteAt h (Nat.zero_lt_succ _)
    rw [Nat.add_zero, byteAt_cons_zero] at this
    exact idx_of_byteAt this
  · have := congrArg (List.drop 1) h
    rwa [List.drop_take, List.drop_drop, Nat.add_sub_cancel, List.drop_succ_cons, List.drop_zero] at this

theorem window_shift {u w1 w2 : Bytes} {off n : Nat} (h : (u.drop off).take n = w1 ++ w2) :
    (u.drop (off + w1.length)).take (n - w1.length) = w2 := by
  have := congrArg (List.drop w1.length) h
  rw [List.drop_append_length, List.drop_take, List.drop_drop] at this
  exact this

theorem slice_window {u A w B : Bytes} (h : u = A ++ w ++ B) : slice u A.length (A.length + w.length) = .ok w := by
  unfold slice
  rw [if_pos ⟨Nat.le_add_right _ _, by rw [h]; simp only [List.length_append]; omega⟩, Nat.add_sub_cancel_left, window_eq h]

theorem take_mid {α} (xs : List α) (y : α) (zs : List α) : (xs ++ y :: zs).take (xs.length + 1) = xs ++ [y] := by
  rw [List.append_cons, List.take_left' (by rw [List.length_append]; rfl)]

theorem flatten_mid (A1 A2 : List Bytes) (rc : Bytes) : (A1 ++ rc :: A2).flatten = A1.flatten ++ rc ++ A2.flatten := by simp

theorem mid_flatten (ps1 ps2 : List Bytes) (rc : Bytes) :
    (ps1 ++ rc :: ps2).flatten.length = ps1.flatten.length + rc.length + ps2.flatten.length := by
  rw [flatten_mid, List.length_append, List.length_append]

theorem cut_mid (pre rc post : Bytes) :
    (pre ++ rc ++ post).take pre.length ++ (pre ++ rc ++ post).drop (pre.length + rc.length) = pre ++ post := by
  rw [← List.length_append, List.drop_append_length, List.append_assoc, List.take_append_length]

theorem splice_mid (a b w : Bytes) : (a ++ b).take a.length ++ w ++ (a ++ b).drop a.length = a ++ w ++ b := by
  rw [List.take_append_length, List.drop_append_length]

theorem split_unique {pre rc post X Y : Bytes} (h : pre ++ rc ++ post = X ++ rc ++ Y) (hl : pre.length = X.length) :
    pre = X ∧ post = Y := by
  rw [List.append_assoc, List.append_assoc] at h
  obtain ⟨h1, h2⟩ := List.append_inj h hl
  exact ⟨h1, (List.append_cancel_left h2)⟩

theorem writeAt_inside (pre post X w Y v : Bytes) (hv : v.length = w.length) :
    writeAt (pre ++ (X ++ w ++ Y) ++ post) (pre.length + X.length) v = .ok (pre ++ (X ++ v ++ Y) ++ post) := by
  have e : pre ++ (X ++ w ++ Y) ++ post = (pre ++ X) ++ (w ++ (Y ++ post)) := by simp only [List.append_assoc]
  rw [← List.length_append, e, writeAt_ok (by simp only [List.length_append]; omega), List.take_append_length,
    hv, ← List.length_append, ← List.append_assoc, List.drop_append_length]
  simp only [List.append_assoc]

theorem get16_eq_of_bytes {p : Bytes} {i hi lo : Nat} (h1 : byteAt p i = some hi) (h2 : byteAt p (i + 1) = some lo) :
    get16 p i = hi * 256 + lo := by simp [get16, getB, h1, h2]

theorem put16_bytes (x y : UInt8) : put16 (x.toNat * 256 + y.toNat) = [x, y] := by
  rw [put16, Nat.mul_comm, Nat.mul_add_div (by decide), Nat.mul_add_mod, Nat.div_eq_of_lt y.toNat_lt, Nat.add_zero,
    Nat.mod_eq_of_lt x.toNat_lt, Nat.mod_eq_of_lt y.toNat_lt, UInt8.ofNat_toNat, UInt8.ofNat_toNat]

theorem put16_get16 {p : Bytes} {i : Nat} (h : i + 2 ≤ p.length) : (p.drop i).take 2 = put16 (get16 p i) := by
  have h0 : i < p.length := by omega
  have h1 : i + 1 < p.length := by omega
  have e : get16 p i = p[i].toNat * 256 + p[i + 1].toNat := by
    simp only [get16, getB, byteAt, List.getElem?_eq_getElem h0, List.getElem?_eq_getElem h1, Option.map_some,
      Option.getD_some]
  rw [List.drop_eq_getElem_cons h0, List.drop_eq_getElem_cons h1, e, put16_bytes]
  rfl

theorem take10_split {u : Bytes} {ne : Nat} (h : ne + 10 ≤ u.length) :
    (u.drop ne).take 10 = (u.drop ne).take 8 ++ put16 (get16 u (ne + 8)) := by
  have e : (10 : Nat) = 8 + 2 := rfl
  rw [e, List.take_add, List.drop_drop, put16_get16 (by omega)]

theorem get16_put16_at {u A B : Bytes} {v : Nat} (h : u = A ++ put16 v ++ B) (hv : v < 65536) :
    get16 u A.length = v := by
  subst h
  have h0 : byteAt (A ++ put16 v ++ B) A.length = some (v / 256 % 256) := by
    rw [List.append_assoc, byteAt_append_right0]
    exact byteAt_append_left (byteAt_put16 v).1
  have h1 : byteAt (A ++ put16 v ++ B) (A.length + 1) = some (v % 256) := by
    rw [List.append_assoc, byteAt_append_right]
    exact byteAt_append_left (byteAt_put16 v).2
  rw [get16_eq_of_bytes h0 h1, Nat.mod_eq_of_lt (Nat.div_lt_of_lt_mul hv), Nat.div_add_mod']

theorem get16_put16 {v : Nat} (hv : v < 65536) : get16 (put16 v) 0 = v :=
  get16_put16_at (A := []) (B := []) (List.append_nil _).symm hv

theorem put16_inj {a b : Nat} (ha : a < 65536) (hb : b < 65536) (h : put16 a = put16 b) : a = b := by
  rw [← get16_put16 ha, ← get16_put16 hb, h]

theorem take8_get16 {a b : Bytes} {i j : Nat} (h : (a.drop i).take 8 = (b.drop j).take 8) (ha : i + 8 ≤ a.length)
    (hb : j + 8 ≤ b.length) : get16 a i = get16 b j := by
  have e1 : (a.drop i).take 2 = (b.drop j).take 2 := by
    have := congrArg (List.take 2) h
    rwa [List.take_take, List.take_take] at this
  rw [put16_get16 (by omega), put16_get16 (by omega)] at e1
  exact put16_inj (get16_lt a i) (get16_lt b j) e1

end Dns
