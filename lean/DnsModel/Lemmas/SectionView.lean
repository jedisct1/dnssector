/-
  A cursor on the i-th record of a record section of a plain object: where that record lies
  (`rec_at`, `window`), what `current_section` and the section's count and start say (`currentSection_at`, `secInfo`),
  and `delete` through the cursor (`delete_at`).
-/
import DnsModel.Lemmas.DeleteRec
namespace Dns
open Res

theorem piece_placed_in {sec : Section} {ps1 ps2 : List Bytes} {rc : Bytes} {ob oe : Bool}
    (h : Pieces sec (ps1 ++ rc :: ps2) ob oe) (pre post : Bytes) :
    ∃ ne ob' oa', RRAtPos (pre ++ (ps1 ++ rc :: ps2).flatten ++ post) sec
      ⟨pre.length + ps1.flatten.length, ne, pre.length + ps1.flatten.length + rc.length⟩ ob' oa' := by
  obtain ⟨om, _, h2⟩ := Pieces.split h
  cases h2 with
  | @cons _ _ _ om' _ hp _ =>
    obtain ⟨p0, r0, hr, hc⟩ := hp
    obtain ⟨ne', hr', _, _⟩ := canon_placed hr hc (pre ++ ps1.flatten) (ps2.flatten ++ post)
    refine ⟨ne', om, om', ?_⟩
    rw [List.length_append] at hr'
    rw [flatten_mid]
    simp only [List.append_assoc] at hr' ⊢
    exact hr'

theorem RRAtPos.pos_len {p : Bytes} {sec : Section} {r : RecPos} {ob oa : Bool} (h : RRAtPos p sec r ob oa) :
    r.off < r.ne ∧ r.ne + 10 ≤ r.next ∧ r.next ≤ p.length := by
  obtain ⟨⟨ls, hv⟩, h10, hnext, hfit, _⟩ := h
  have := hv.2.1.lt
  exact ⟨this, by omega, hfit⟩

theorem PlainObj.bytes_rec {pp : PP} (P : PlainObj pp) (sec : Section) (hs : sec.isRec = true) {ps1 ps2 : List Bytes} {rc : Bytes}
    (hsplit : P.lst sec = ps1 ++ rc :: ps2) :
    pp.packet = (P.hdr ++ P.pre sec ++ ps1.flatten) ++ rc ++ (ps2.flatten ++ P.post sec) ∧
      (P.hdr ++ P.pre sec ++ ps1.flatten).length = P.start sec + ps1.flatten.length := by
  constructor
  · rw [P.bytes_at sec hs, hsplit, flatten_mid]
    simp only [List.append_assoc]
  · rw [List.length_append, List.length_append, P.hh, P.pre_length sec hs]

theorem PlainObj.rec_at {pp : PP} (P : PlainObj pp) (sec : Section) (hs : sec.isRec = true) {ps1 ps2 : List Bytes} {rc : Bytes}
    (hsplit : P.lst sec = ps1 ++ rc :: ps2) :
    ∃ ne ob oa, RRAtPos pp.packet sec ⟨P.start sec + ps1.flatten.length, ne, P.start sec + ps1.flatten.length + rc.length⟩ ob oa := by
  have hps := P.pieces sec hs
  rw [hsplit] at hps
  obtain ⟨ne, ob, oa, hr⟩ := piece_placed_in hps (P.hdr ++ P.pre sec) (P.post sec)
  rw [← hsplit, ← P.bytes_at sec hs, List.length_append, P.hh, P.pre_length sec hs] at hr
  exact ⟨ne, ob, oa, hr⟩

theorem PlainObj.window {pp : PP} (P : PlainObj pp) (sec : Section) (hs : sec.isRec = true) {ps1 ps2 : List Bytes} {rc : Bytes}
    (hsplit : P.lst sec = ps1 ++ rc :: ps2) :
    (pp.packet.drop (P.start sec + ps1.flatten.length)).take rc.length = rc := by
  obtain ⟨e, hl⟩ := P.bytes_rec sec hs hsplit
  rw [← hl]
  exact window_eq e

/-- one test of `current_section`, passed -/
theorem secHit {o : Option Nat} {a off : Nat} (h : o = some a) (hle : a ≤ off) : (o.isSome && optGe (some off) o) = true := by
  subst h
  simp only [Option.isSome_some, Bool.true_and, optGe, optLt, Bool.not_eq_true', decide_eq_false_iff_not]
  omega

theorem secMiss {o : Option Nat} {off : Nat} (h : ∀ x, o = some x → off < x) : (o.isSome && optGe (some off) o) = false := by
  cases o with
  | none => rfl
  | some x =>
    simp only [Option.isSome_some, Bool.true_and, optGe, optLt, Bool.not_eq_false', decide_eq_true_eq]
    exact h x rfl

theorem PlainObj.currentSection_at {pp : PP} (P : PlainObj pp) (sec : Section) (hs : sec.isRec = true) {ps1 ps2 : List Bytes} {rc : Bytes}
    (hsplit : P.lst sec = ps1 ++ rc :: ps2) (hrc : 0 < rc.length) (c : Cursor)
    (hoff : c.offset = some (P.start sec + ps1.flatten.length)) : c.currentSection pp = .ok sec := by
  have hfl := mid_flatten ps1 ps2 rc
  rw [← hsplit] at hfl
  have hown : pp.secOff sec = some (P.start sec) := by
    rw [P.secOff sec hs, hsplit, if_pos (by rw [List.length_append]; exact Nat.lt_add_left _ (Nat.succ_pos _))]
  have hlater : ∀ s, s.isRec = true → sec.before s = true → ∀ x, pp.secOff s = some x → P.start sec + ps1.flatten.length < x := by
    intro s hs' hb x hx
    have := P.start_mono hs hb
    rw [P.secOff s hs'] at hx
    split at hx
    · cases hx; omega
    · cases hx
  have hq : optLt (some (P.start sec + ps1.flatten.length)) pp.offsetQuestion = false := by
    have h12 : 12 ≤ P.start sec := by rw [← P.pre_length sec hs]; exact Nat.le_add_right _ _
    rw [P.oq]
    simp only [optLt, decide_eq_false_iff_not]
    omega
  have hhit := secHit hown (Nat.le_add_right _ ps1.flatten.length)
  unfold Cursor.currentSection
  rw [hoff]
  rcases Section.isRec_cases hs with rfl | rfl | rfl
  · have hN := secMiss (o := pp.offsetNameservers) (hlater .nameServers rfl rfl)
    have hR := secMiss (o := pp.offsetAdditional) (hlater .additional rfl rfl)
    have hA : (pp.offsetAnswers.isSome && optGe _ pp.offsetAnswers) = true := hhit
    simp only [hq, hA, hN, hR, Bool.false_eq_true, if_false, if_true, pure_eq]
  · have hR := secMiss (o := pp.offsetAdditional) (hlater .additional rfl rfl)
    have hN : (pp.offsetNameservers.isSome && optGe _ pp.offsetNameservers) = true := hhit
    simp only [hq, hN, hR, Bool.false_eq_true, if_false, if_true, pure_eq]
  · have hR : (pp.offsetAdditional.isSome && optGe _ pp.offsetAdditional) = true := hhit
    simp only [hq, hR, Bool.false_eq_true, if_false, if_true, pure_eq]

/-- what an iterator reads of a record section: its count in the header and the start the object records -/
theorem secInfo_eq (pp : PP) {sec : Section} (hs : sec.isRec = true) :
    secInfo pp sec = (do let n ← sectionCount pp.packet sec; pure (n, pp.secOff sec)) := by
  rcases Section.isRec_cases hs with rfl | rfl | rfl <;> rfl

theorem PlainObj.sectionCount {pp : PP} (P : PlainObj pp) (sec : Section) (hs : sec.isRec = true) :
    Dns.sectionCount pp.packet sec = .ok (P.lst sec).length := by
  rw [P.bytes_at sec hs, List.append_assoc, List.append_assoc, sectionCount_hdr P.hh sec (Section.ne_edns_of_isRec hs),
    P.count sec hs]

theorem PlainObj.secInfo {pp : PP} (P : PlainObj pp) (sec : Section) (hs : sec.isRec = true) :
    Dns.secInfo pp sec = .ok ((P.lst sec).length, if (P.lst sec).length > 0 then some (P.start sec) else none) := by
  rw [secInfo_eq pp hs, P.sectionCount sec hs, P.secOff sec hs]
  rfl

theorem PlainObj.delete_at {pp : PP} (P : PlainObj pp) (sec : Section) (hs : sec.isRec = true) {ps1 ps2 : List Bytes} {rc : Bytes}
    (hsplit : P.lst sec = ps1 ++ rc :: ps2) (c : Cursor) {ne : Nat} {ob oa : Bool}
    (hr : RRAtPos pp.packet sec ⟨P.start sec + ps1.flatten.length, ne, P.start sec + ps1.flatten.length + rc.length⟩ ob oa)
    (hoff : c.offset = some (P.start sec + ps1.flatten.length))
    (hnext : c.offsetNext = P.start sec + ps1.flatten.length + rc.length) (hne : c.nameEnd = ne) :
    ∃ (pp' : PP) (P' : PlainObj pp'),
      deleteRR pp c = .ok { pp := pp', cur := { c with offsetNext := P.start sec + ps1.flatten.length, offset := none }, result := none } ∧
      P'.lst sec = ps1 ++ ps2 ∧ (∀ s, s ≠ sec → P'.lst s = P.lst s) ∧ P'.qls = P.qls ∧ P'.q4 = P.q4 ∧
      (∀ k, (k + 1 < sectionCountOffset sec ∨ sectionCountOffset sec + 1 < k) → get16 P'.hdr k = get16 P.hdr k) ∧
      (get16 pp.packet ne ≠ 41 → pp'.ednsCount = pp.ednsCount ∧ pp'.extRcode = pp.extRcode ∧ pp'.ednsVersion = pp.ednsVersion ∧
        pp'.extFlags = pp.extFlags ∧ pp'.maxPayload = pp.maxPayload ∧
        pp'.offsetEdns = (if optLt c.offset pp.offsetEdns then pp.offsetEdns.map (fun x => shiftNat x (-(Int.ofNat rc.length))) else pp.offsetEdns)) ∧
      (get16 pp.packet ne = 41 → pp'.ednsCount = 0 ∧ pp'.extRcode = none ∧ pp'.ednsVersion = none ∧
        pp'.extFlags = none ∧ pp'.maxPayload = 512 ∧ pp'.offsetEdns = none) ∧ pp'.cached = none := by
  obtain ⟨h1, h2, h3⟩ := hr.pos_len
  simp only at h1 h2 h3
  have hrc : 0 < rc.length := by omega
  have hcs := P.currentSection_at sec hs hsplit hrc c hoff
  have hfl := mid_flatten ps1 ps2 rc
  rw [← hsplit] at hfl
  -- only the additional section holds an OPT record, and only there `delete` looks at the type
  have hopt : (if sec == .additional then do let t ← c.rrType pp.packet; pure (t == TYPE_OPT) else pure false) =
      Res.ok (get16 pp.packet ne == TYPE_OPT) := by
    by_cases hadd : sec = .additional
    · subst hadd
      rw [if_pos (show (Section.additional == Section.additional) = true from rfl), rrType_at hoff (by rw [hne]; omega), hne]
      rfl
    · have hb : (sec == Section.additional) = false := beq_eq_false_iff_ne.2 hadd
      have h41 : ¬ get16 pp.packet ne = 41 := fun h => by
        have := hr.2.2.2.2
        rw [if_pos h] at this
        exact hadd this.1
      rw [hb, if_neg Bool.false_ne_true, (beq_eq_false_iff_ne (b := TYPE_OPT)).2 h41]
      rfl
  obtain ⟨e, hl⟩ := P.bytes_rec sec hs hsplit
  have hcut : pp.packet.take (P.start sec + ps1.flatten.length) ++ pp.packet.drop c.offsetNext =
      P.hdr ++ (P.pre sec ++ (ps1 ++ ps2).flatten ++ P.post sec) := by
    have := cut_mid (P.hdr ++ P.pre sec ++ ps1.flatten) rc (ps2.flatten ++ P.post sec)
    rw [← e, hl] at this
    rw [hnext, this]
    simp only [List.flatten_append, List.append_assoc]
  have hll : (P.lst sec).length = (ps1 ++ ps2).length + 1 := by
    rw [hsplit]; simp only [List.length_append, List.length_cons]; omega
  have hcnt : get16 P.hdr (sectionCountOffset sec) = (ps1 ++ ps2).length + 1 := by rw [P.count sec hs, hll]
  obtain ⟨hdr', hh', hg, hgo, hrun⟩ := deleteRR_run pp c _ sec _ hoff hcs hs P.mc hopt
    (by rw [hnext]; exact Nat.lt_add_of_pos_right hrc) (by rw [hnext]; exact h3) hcut P.hh (by rw [hcnt]; exact Nat.succ_pos _)
  rw [hcnt, Nat.add_sub_cancel] at hg hrun
  rw [show c.offsetNext - (P.start sec + ps1.flatten.length) = rc.length by rw [hnext, Nat.add_sub_cancel_left]] at hrun
  have hps := P.pieces sec hs
  rw [hsplit] at hps
  obtain ⟨o', hps'⟩ := pieces_remove hps
  obtain ⟨P', f1, f2, f3, f4, f5⟩ := P.update sec hs hps' hh' hg hgo
    (fun h0 hna => by
      have := P.lst_nil_of_query h0 sec hna
      rw [hsplit] at this
      exact absurd (List.append_eq_nil_iff.1 this).2 (List.cons_ne_nil _ _))
    (pp' := pp.afterDelete c sec rc.length (get16 pp.packet ne == TYPE_OPT)
      (hdr' ++ (P.pre sec ++ (ps1 ++ ps2).flatten ++ P.post sec)) (ps1 ++ ps2).length)
    (by show hdr' ++ _ = _; simp only [List.append_assoc]) rfl P.mc
    (by
      rw [afterDelete_secOff _ _ _ _ _ _ _ _ hs, if_pos rfl, P.secOff sec hs]
      by_cases h0 : (ps1 ++ ps2).length = 0
      · rw [if_pos h0, h0, if_neg (Nat.lt_irrefl 0)]
      · rw [if_neg h0, if_pos (by rw [hll]; exact Nat.succ_pos _), if_pos (Nat.pos_of_ne_zero h0)])
    (f := fun x => shiftNat x (-(Int.ofNat rc.length)))
    (fun x hx => by
      rw [shiftNat_neg]
      simp only [List.flatten_append, List.length_append]
      omega)
    (fun s hs' hne' => by rw [afterDelete_secOff _ _ _ _ _ _ _ _ hs', if_neg hne'])
  refine ⟨_, P', hrun, f1, f2, f3, f4, fun k hk => by rw [f5]; exact hgo k hk, fun h41 => ?_, fun h41 => ?_, rfl⟩
  · have hb : (get16 pp.packet ne == TYPE_OPT) = false := (beq_eq_false_iff_ne (b := TYPE_OPT)).2 h41
    simp only [PP.afterDelete, hb, Bool.false_eq_true, if_false, and_self]
  · have hb : (get16 pp.packet ne == TYPE_OPT) = true := beq_iff_eq.2 h41
    simp only [PP.afterDelete, hb, if_true, and_self]

theorem delete_void (pp : PP) (c : Cursor) (h : c.offset = none) :
    deleteRR pp c = .ok { pp := pp, cur := c, result := some .voidRecord } := by
  unfold deleteRR
  simp only [h, Option.isNone_none, if_true, pure_eq]

end Dns
