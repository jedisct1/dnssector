/-
  One iteration of the compressed-name walker (`ccnLoop_succ`); from it, the walker never panics and never runs
  out of fuel.
-/
import DnsModel.Spec.Wire
import DnsModel.Lemmas.Bytes
namespace Dns

theorem labelHasBadChar_eq {p : Bytes} {off len : Nat} (h : off + len + 1 ≤ p.length) :
    labelHasBadChar p off len = .ok (!(goodChars (lab p off len))) := by
  unfold labelHasBadChar goodChars lab
  have : ¬ (off + len + 1 > p.length) := by omega
  simp [this]

/-- invariant that makes every read in the loop safe -/
def NW.Inv (p : Bytes) (s : NW) : Prop := s.barrier ≤ p.length ∧ s.lowest ≤ p.length

/- The three ways an iteration of `check_compressed_name` does not fail.  The fields are what `Labels.cons`,
`NameAt.root` and `NameAt.ptr` ask for. -/

structure NW.AtRoot (p : Bytes) (s : NW) : Prop where
  bar : s.offset < s.barrier
  byte : byteAt p s.offset = some 0
  total : s.nameLen + 1 ≤ 255

structure NW.AtLabel (p : Bytes) (s : NW) (len : Nat) : Prop where
  bar : s.offset < s.barrier
  byte : byteAt p s.offset = some len
  pos : 1 ≤ len
  le63 : len ≤ 63
  fits : s.offset + len + 1 ≤ p.length
  total : s.nameLen + len + 1 ≤ 255
  good : goodChars (lab p s.offset len) = true

structure NW.AtPtr (p : Bytes) (s : NW) (hi lo : Nat) : Prop where
  bar : s.offset < s.barrier
  byte : byteAt p s.offset = some hi
  ge : 192 ≤ hi
  next : byteAt p (s.offset + 1) = some lo
  refs : 0 < s.refs
  ne : ptrTarget hi lo ≠ s.offset
  low : ptrTarget hi lo < s.lowest
  tgt : ptrTarget hi lo < p.length
  nz : byteAt p (ptrTarget hi lo) ≠ some 0

theorem ccnLoop_root {p : Bytes} {s : NW} (fuel : Nat) (h : s.AtRoot p) :
    ccnLoop p (fuel+1) s = .ok (s.final.getD (s.offset + 1)) := by
  have c0 : ¬ s.offset ≥ s.barrier := Nat.not_le_of_lt h.bar
  have c2 : ¬ 0 ≥ p.length - s.offset := by have := byteAt_lt_length h.byte; omega
  have c3 : ¬ s.nameLen + 0 + 1 > DNS_MAX_HOSTNAME_LEN := Nat.not_lt_of_le h.total
  have hbc : labelHasBadChar p s.offset 0 = .ok false := by
    rw [labelHasBadChar_eq (by have := byteAt_lt_length h.byte; omega)]; rfl
  rw [ccnLoop]
  simp only [if_neg c0, idx_of_byteAt h.byte, isPtr_eq_false (by omega : 0 < 192), if_neg c2, if_neg c3, hbc]
  simp

theorem ccnLoop_label {p : Bytes} {s : NW} {len : Nat} (fuel : Nat) (h : s.AtLabel p len) :
    ccnLoop p (fuel+1) s = ccnLoop p fuel { s with offset := s.offset + len + 1, nameLen := s.nameLen + len + 1 } := by
  have c0 : ¬ s.offset ≥ s.barrier := Nat.not_le_of_lt h.bar
  have c1 : ¬ len > 0x3f := Nat.not_lt_of_le h.le63
  have c2 : ¬ len ≥ p.length - s.offset := by have := h.fits; omega
  have c3 : ¬ s.nameLen + len + 1 > DNS_MAX_HOSTNAME_LEN := Nat.not_lt_of_le h.total
  have c4 : ¬ len = 0 := by have := h.pos; omega
  rw [ccnLoop]
  simp only [if_neg c0, idx_of_byteAt h.byte, isPtr_eq_false (by have := h.le63; omega : len < 192), if_neg c1, if_neg c2,
    if_neg c3, labelHasBadChar_eq h.fits, h.good, if_neg c4, Bool.not_true, Bool.false_eq_true, if_false]

theorem ccnLoop_ptr {p : Bytes} {s : NW} {hi lo : Nat} (fuel : Nat) (h : s.AtPtr p hi lo) :
    ccnLoop p (fuel+1) s = ccnLoop p fuel { s with final := s.final.or (some (s.offset + 2)), offset := ptrTarget hi lo,
                                                   barrier := s.lowest, lowest := ptrTarget hi lo, refs := s.refs - 1 } := by
  have c0 : ¬ s.offset ≥ s.barrier := Nat.not_le_of_lt h.bar
  have c1 : ¬ s.refs = 0 := Nat.ne_of_gt h.refs
  have c2 : ¬ 2 > p.length - s.offset := by have := byteAt_lt_length h.next; omega
  have c3 : ¬ (ptrTarget hi lo = s.offset ∨ ptrTarget hi lo ≥ s.lowest) := by have := h.ne; have := h.low; omega
  obtain ⟨t, ht, _⟩ := byteAt_of_lt h.tgt
  have c4 : ¬ (!(isPtr t) && decide (t < 1)) = true := by
    have : t ≠ 0 := fun h0 => h.nz (h0 ▸ ht)
    simp; omega
  rw [ccnLoop]
  simp only [if_neg c0, idx_of_byteAt h.byte, (isPtr_iff' hi (byteAt_lt h.byte)).2 h.ge, if_true, if_neg c1, if_neg c2,
    idx_of_byteAt h.next, ptrTarget_eq hi lo (byteAt_lt h.byte) (byteAt_lt h.next), if_neg c3, idx_of_byteAt ht, if_neg c4]

theorem ccnLoop_succ (p : Bytes) (fuel : Nat) (s : NW) :
    ccnLoop p (fuel+1) s = .err .invalidName ∨ (ccnLoop p (fuel+1) s = .panic ∧ ¬ s.Inv p) ∨
      s.AtRoot p ∨ (∃ len, s.AtLabel p len) ∨ ∃ hi lo, s.AtPtr p hi lo := by
  generalize hr : ccnLoop p (fuel+1) s = r
  rw [ccnLoop] at hr
  refine (Res.of_guard hr).elim .inl fun ⟨h0, hr⟩ => ?_
  rcases idx_cases p s.offset with ⟨len, hidx, hb, hlt⟩ | hp
  case inr =>
    rw [hp] at hr
    exact .inr (.inl ⟨hr.symm, fun hi => by have := idx_eq_panic hp; have := hi.1; omega⟩)
  simp only [hidx] at hr
  by_cases h1 : 192 ≤ len
  · rw [if_pos ((isPtr_iff' len hlt).2 h1)] at hr
    refine (Res.of_guard hr).elim .inl fun ⟨h2, hr⟩ => (Res.of_guard hr).elim .inl fun ⟨h3, hr⟩ => ?_
    obtain ⟨lo, hidx1, hlo⟩ := idx_ok_of_lt (p := p) (i := s.offset + 1) (by omega)
    simp only [hidx1, ptrTarget_eq len lo hlt hlo] at hr
    refine (Res.of_guard hr).elim .inl fun ⟨h4, hr⟩ => ?_
    rcases idx_cases p (ptrTarget len lo) with ⟨t, hidx2, hbt, _⟩ | hp
    case inr =>
      rw [hp] at hr
      exact .inr (.inl ⟨hr.symm, fun hi => by have := idx_eq_panic hp; have := hi.2; omega⟩)
    simp only [hidx2] at hr
    refine (Res.of_guard hr).elim .inl fun ⟨h5, _⟩ => ?_
    exact .inr (.inr (.inr (.inr ⟨len, lo, by omega, hb, h1, idx_ok_iff.1 hidx1, by omega, by omega, by omega,
      byteAt_lt_length hbt, by rw [hbt]; intro h0; cases h0; exact h5 rfl⟩)))
  rw [if_neg (by rw [isPtr_eq_false (by omega)]; exact Bool.false_ne_true)] at hr
  refine (Res.of_guard hr).elim .inl fun ⟨h2, hr⟩ => (Res.of_guard hr).elim .inl fun ⟨h3, hr⟩ =>
    (Res.of_guard hr).elim .inl fun ⟨h4, hr⟩ => ?_
  rw [labelHasBadChar_eq (by omega : s.offset + len + 1 ≤ p.length)] at hr
  have h4 : s.nameLen + len + 1 ≤ 255 := Nat.le_of_not_lt h4
  cases hg : goodChars (lab p s.offset len) with
  | false => rw [hg] at hr; exact .inl hr.symm
  | true =>
    by_cases h5 : len = 0
    · subst h5; exact .inr (.inr (.inl ⟨by omega, hb, h4⟩))
    · exact .inr (.inr (.inr (.inl ⟨len, by omega, hb, by omega, by omega, by omega, h4, hg⟩)))

theorem ccnLoop_no_panic (p : Bytes) (fuel : Nat) (s : NW) (h : s.Inv p) : ccnLoop p fuel s ≠ .panic := by
  induction fuel generalizing s with
  | zero => nofun
  | succ n ih =>
    rcases ccnLoop_succ p n s with e | ⟨_, hn⟩ | hr | ⟨len, hl⟩ | ⟨hi, lo, hp⟩
    · rw [e]; nofun
    · exact absurd h hn
    · rw [ccnLoop_root n hr]; nofun
    · rw [ccnLoop_label n hl]; exact ih _ h
    · rw [ccnLoop_ptr n hp]; exact ih _ ⟨h.2, Nat.le_of_lt hp.tgt⟩

theorem nameFuel_eq : nameFuel = 273 := rfl

/-- `refs + (255 - nameLen)` goes down at every iteration that goes on: a pointer spends one of the 16 `refs`, a label
adds `len + 1 ≥ 2` to `nameLen`, which the loop keeps ≤ 255.  Hence `nameFuel = 16 + 255 + 2`. -/
theorem ccnLoop_terminates (p : Bytes) (fuel : Nat) (s : NW) (hf : fuel > s.refs + (255 - s.nameLen)) :
    ccnLoop p fuel s ≠ .diverge := by
  induction fuel generalizing s with
  | zero => omega
  | succ n ih =>
    rcases ccnLoop_succ p n s with e | ⟨e, _⟩ | hr | ⟨len, hl⟩ | ⟨hi, lo, hp⟩
    · rw [e]; nofun
    · rw [e]; nofun
    · rw [ccnLoop_root n hr]; nofun
    · rw [ccnLoop_label n hl]
      have := hl.total
      exact ih _ (by show n > s.refs + (255 - (s.nameLen + len + 1)); omega)
    · rw [ccnLoop_ptr n hp]
      have := hp.refs
      exact ih _ (by show n > s.refs - 1 + (255 - s.nameLen); omega)

theorem checkCompressedName_returns (p : Bytes) (off : Nat) : (checkCompressedName p off).Returns := by
  unfold checkCompressedName
  split
  · exact Res.returns_err _
  · rename_i h
    exact ⟨ccnLoop_no_panic _ _ _ ⟨Nat.le_refl _, Nat.le_of_not_le h⟩,
      ccnLoop_terminates _ _ _ (by show nameFuel > DNS_MAX_HOSTNAME_INDIRECTIONS + (255 - 0); decide)⟩

theorem checkCompressedName_total (p : Bytes) (off : Nat) :
    (∃ e, checkCompressedName p off = .err e) ∨ (∃ n, checkCompressedName p off = .ok n) :=
  (Res.returns_cases (checkCompressedName_returns p off)).symm

end Dns
