/-
  Compressing one record of a pointer-free packet.
-/
import DnsModel.Lemmas.CompressName
namespace Dns
open Res

/-- the data of a record of type `t` is written without pointers -/
def PlainRd (u : Bytes) (t l rs : Nat) : Prop :=
  if t = 2 ∨ t = 5 ∨ t = 12 then ∃ ls, PlainAt u rs ls ∧ l = labSum ls + 1
  else if t = 15 then ∃ ls, PlainAt u (rs + 2) ls ∧ l = 2 + (labSum ls + 1)
  else if t = 6 then ∃ l1 l2, PlainAt u rs l1 ∧ PlainAt u (rs + (labSum l1 + 1)) l2 ∧
      l = (labSum l1 + 1) + (labSum l2 + 1) + 20
  else True

/-- the record at `r` is written without pointers -/
def PlainRec (u : Bytes) (r : RecPos) : Prop :=
  ∃ owner, PlainAt u r.off owner ∧ r.ne = r.off + (labSum owner + 1) ∧
    PlainRd u (get16 u r.ne) (get16 u (r.ne + 8)) (r.ne + 10)

/-- data equal up to the case of the names in it, by type class as in `compress_rdata` of compress.rs -/
def RdCi (u B : Bytes) (t l rs l' rs' : Nat) : Prop :=
  if t = 2 ∨ t = 5 ∨ t = 12 then
    ∃ ls ls', ValidName u rs ls (rs + l) ∧ ValidName B rs' ls' (rs' + l') ∧ lsCi ls' ls
  else if t = 15 then
    (B.drop rs').take 2 = (u.drop rs).take 2 ∧
      ∃ ls ls', ValidName u (rs + 2) ls (rs + l) ∧ ValidName B (rs' + 2) ls' (rs' + l') ∧ lsCi ls' ls
  else if t = 6 then
    ∃ l1 l2 l1' l2' e1 e1', ValidName u rs l1 e1 ∧ ValidName u e1 l2 (rs + l - 20) ∧
      ValidName B rs' l1' e1' ∧ ValidName B e1' l2' (rs' + l' - 20) ∧ lsCi l1' l1 ∧ lsCi l2' l2 ∧
      (B.drop (rs' + l' - 20)).take 20 = (u.drop (rs + l - 20)).take 20
  else l' = l ∧ (B.drop rs').take l = (u.drop rs).take l

/-- record `r'` of `B` is record `r` of `u` up to the case of names: owner and data names have labels
equal up to case, the eight fixed bytes and all other data are identical -/
def RecCi (u : Bytes) (r : RecPos) (B : Bytes) (r' : RecPos) : Prop :=
  ∃ owner owner', ValidName u r.off owner r.ne ∧ ValidName B r'.off owner' r'.ne ∧ lsCi owner' owner ∧
    (B.drop r'.ne).take 8 = (u.drop r.ne).take 8 ∧
    RdCi u B (get16 u r.ne) (get16 u (r.ne + 8)) (r.ne + 10) (get16 B (r'.ne + 8)) (r'.ne + 10)

theorem PlainRd.name_iff {u : Bytes} {t l rs : Nat} (ht : t = 2 ∨ t = 5 ∨ t = 12) :
    PlainRd u t l rs ↔ ∃ ls, PlainAt u rs ls ∧ l = labSum ls + 1 := by
  rw [PlainRd, if_pos ht]

theorem PlainRd.mx_iff {u : Bytes} {l rs : Nat} :
    PlainRd u 15 l rs ↔ ∃ ls, PlainAt u (rs + 2) ls ∧ l = 2 + (labSum ls + 1) := by
  rw [PlainRd, if_neg (by decide), if_pos rfl]

theorem PlainRd.soa_iff {u : Bytes} {l rs : Nat} :
    PlainRd u 6 l rs ↔ ∃ l1 l2, PlainAt u rs l1 ∧ PlainAt u (rs + (labSum l1 + 1)) l2 ∧
      l = (labSum l1 + 1) + (labSum l2 + 1) + 20 := by
  rw [PlainRd, if_neg (by decide), if_neg (by decide), if_pos rfl]

theorem RdCi.name_iff {u B : Bytes} {t l rs l' rs' : Nat} (ht : t = 2 ∨ t = 5 ∨ t = 12) :
    RdCi u B t l rs l' rs' ↔ ∃ ls ls', ValidName u rs ls (rs + l) ∧ ValidName B rs' ls' (rs' + l') ∧ lsCi ls' ls := by
  rw [RdCi, if_pos ht]

theorem RdCi.mx_iff {u B : Bytes} {l rs l' rs' : Nat} :
    RdCi u B 15 l rs l' rs' ↔ (B.drop rs').take 2 = (u.drop rs).take 2 ∧
      ∃ ls ls', ValidName u (rs + 2) ls (rs + l) ∧ ValidName B (rs' + 2) ls' (rs' + l') ∧ lsCi ls' ls := by
  rw [RdCi, if_neg (by decide), if_pos rfl]

theorem RdCi.soa_iff {u B : Bytes} {l rs l' rs' : Nat} :
    RdCi u B 6 l rs l' rs' ↔ ∃ l1 l2 l1' l2' e1 e1', ValidName u rs l1 e1 ∧ ValidName u e1 l2 (rs + l - 20) ∧
      ValidName B rs' l1' e1' ∧ ValidName B e1' l2' (rs' + l' - 20) ∧ lsCi l1' l1 ∧ lsCi l2' l2 ∧
      (B.drop (rs' + l' - 20)).take 20 = (u.drop (rs + l - 20)).take 20 := by
  rw [RdCi, if_neg (by decide), if_neg (by decide), if_pos rfl]

theorem RdCi.verbatim_iff {u B : Bytes} {t l rs l' rs' : Nat} (h1 : ¬(t = 2 ∨ t = 5 ∨ t = 12)) (h2 : t ≠ 15) (h3 : t ≠ 6) :
    RdCi u B t l rs l' rs' ↔ l' = l ∧ (B.drop rs').take l = (u.drop rs).take l := by
  rw [RdCi, if_neg h1, if_neg h2, if_neg h3]

/-- The names are compressed with the length field still to be patched, which is why `copyName_any` is needed. -/
theorem compress_rdata {u : Bytes} {ne t l : Nat} (hfit : ne + 10 + l ≤ u.length) (hl : l = get16 u (ne + 8))
    (hp : PlainRd u t l (ne + 10))
    (hbody : if t = 41 then ∃ n, OptionsTile u (ne + 10) (ne + 10 + l) n else RDataOK u t l (ne + 10))
    (dict : SuffixDict) (O : Bytes) (hinv : DictInv dict O) :
    ∃ (dict' : SuffixDict) (rd : Bytes),
      compressRdata dict O u ne (some t) (some l) = .ok (dict', O ++ ((u.drop ne).take 8 ++ put16 rd.length ++ rd)) ∧
      rd.length ≤ l ∧ DictInv dict' (O ++ ((u.drop ne).take 8 ++ put16 rd.length ++ rd)) ∧
      ∀ tl : Bytes,
        (if t = 41 then ∃ n, OptionsTile (O ++ ((u.drop ne).take 8 ++ put16 rd.length ++ rd) ++ tl) (O.length + 10)
            (O.length + 10 + rd.length) n
          else RDataOK (O ++ ((u.drop ne).take 8 ++ put16 rd.length ++ rd) ++ tl) t rd.length (O.length + 10)) ∧
        RdCi u (O ++ ((u.drop ne).take 8 ++ put16 rd.length ++ rd) ++ tl) t l (ne + 10) rd.length (O.length + 10) := by
  have h10 : ne + 10 ≤ u.length := by omega
  have hsl : sliceFrom u ne = .ok (u.drop ne) := sliceFrom_ok (by omega)
  have hh : slice u ne (ne + 10) = .ok ((u.drop ne).take 10) := by
    rw [slice_ok ⟨by omega, h10⟩, Nat.add_sub_cancel_left]
  have hhl : ∀ O' : Bytes, (O' ++ (u.drop ne).take 10).length = O'.length + 10 := fun O' => by
    rw [List.length_append, length_take_drop h10]
  have hXl : ∀ v : Nat, (O ++ ((u.drop ne).take 8 ++ put16 v)).length = O.length + 10 := fun v => by
    rw [List.length_append, List.length_append, length_take_drop (by omega)]; rfl
  unfold compressRdata
  simp only [hsl, bind_ok]
  -- the four classes of `compress_rdata` in compress.rs: one name (NS, CNAME, PTR); MX; SOA; no name
  rcases rdClass t with hns | rfl | rfl | ⟨hns, hmx, hsoa⟩
  · obtain ⟨ls, hpl, hll⟩ := (PlainRd.name_iff hns).1 hp
    have hw := hpl.2.2.1
    rw [wireLen_eq] at hw
    obtain ⟨dict', em, hgen, hle, hpos, hall⟩ := copyName_any hpl dict (O.length + 10) _ (hhl O) (hinv.append _)
    obtain ⟨hd', ls', hci, hval⟩ := hall _ (hXl em.length) (hinv.append _)
    obtain ⟨h41, hel, hlt, hne0⟩ : t ≠ 41 ∧ em.length ≤ l ∧ em.length < 65536 ∧ em.length ≠ 0 := by omega
    refine ⟨dict', em, ?_, hel, by rwa [List.append_assoc] at hd', fun tl => ?_⟩
    · have hc : (t == TYPE_NS || t == TYPE_CNAME || t == TYPE_PTR) = true := by
        rcases hns with rfl | rfl | rfl <;> rfl
      simp only [hc, if_true, bind_ok, DNS_RR_HEADER_SIZE, DNS_RR_RDLEN_OFFSET, hh, hgen _ (hhl O),
        patch16_rdlen O h10 (rd := em) rfl rfl hlt, pure_eq]
    · have hv := hval tl
      rw [List.append_assoc O] at hv
      rw [if_neg h41, RDataOK.name_iff hns, RdCi.name_iff hns]
      refine ⟨⟨hne0, ls', hv⟩, ls, ls', ?_, hv, hci⟩
      rw [hll, ← Nat.add_assoc]
      exact hpl.valid
  · obtain ⟨ls, hpl, hll⟩ := PlainRd.mx_iff.1 hp
    have hw := hpl.2.2.1
    rw [wireLen_eq] at hw
    have hp2 : ((u.drop (ne + 10)).take 2).length = 2 := length_take_drop (by omega)
    have h12 : slice u ne (ne + 10 + 2) = .ok ((u.drop ne).take 10 ++ (u.drop (ne + 10)).take 2) := by
      rw [slice_ok ⟨by omega, by omega⟩, Nat.add_assoc, Nat.add_sub_cancel_left, List.take_add, List.drop_drop]
    generalize hp2e : (u.drop (ne + 10)).take 2 = p2 at hp2 h12
    have hrd : ∀ em : Bytes, (p2 ++ em).length = 2 + em.length := fun em => by rw [List.length_append, hp2]
    obtain ⟨dict', em, hgen, hle, hpos, hall⟩ := copyName_any hpl dict (O.length + 10 + 2)
      (O ++ (u.drop ne).take 10 ++ p2) (by rw [List.length_append, hhl, hp2]) (hinv.append _ |>.append _)
    obtain ⟨hd', ls', hci, hval⟩ := hall (O ++ ((u.drop ne).take 8 ++ put16 (p2 ++ em).length) ++ p2)
      (by rw [List.length_append, hXl, hp2]) (hinv.append _ |>.append _)
    obtain ⟨hel, hlt, h2lt⟩ : (p2 ++ em).length ≤ l ∧ (p2 ++ em).length < 65536 ∧ 2 < (p2 ++ em).length := by
      rw [hrd]
      omega
    refine ⟨dict', p2 ++ em, ?_, hel, ?_, fun tl => ?_⟩
    · rw [if_neg (by decide), if_pos (by decide)]
      have hg := hgen (O ++ ((u.drop ne).take 10 ++ p2)) (by rw [← List.append_assoc, List.length_append, hhl, hp2])
      have e : O ++ ((u.drop ne).take 10 ++ p2) ++ em = O ++ (u.drop ne).take 10 ++ (p2 ++ em) := by
        simp only [List.append_assoc]
      simp only [DNS_RR_HEADER_SIZE, DNS_RR_RDLEN_OFFSET, h12, bind_ok, hg, e, ← hrd,
        patch16_rdlen O h10 (rd := p2 ++ em) rfl rfl hlt, pure_eq]
    · rwa [List.append_assoc, List.append_assoc O] at hd'
    · have hv := hval tl
      rw [List.append_assoc _ _ em, List.append_assoc O, Nat.add_assoc (O.length + 10) 2, ← hrd] at hv
      rw [if_neg (by decide), RDataOK.mx_iff, RdCi.mx_iff]
      refine ⟨⟨h2lt, ls', hv⟩, ?_, ls, ls', ?_, hv, hci⟩
      · have := window_eq (u := O ++ ((u.drop ne).take 8 ++ put16 (p2 ++ em).length ++ (p2 ++ em)) ++ tl)
          (A := O ++ ((u.drop ne).take 8 ++ put16 (p2 ++ em).length)) (w := p2) (B := em ++ tl)
          (by simp only [List.append_assoc])
        rw [hXl, hp2] at this
        exact this.trans hp2e.symm
      · rw [hll, ← Nat.add_assoc, ← Nat.add_assoc]
        exact hpl.valid
  · obtain ⟨l1, l2, hp1, hp2, hll⟩ := PlainRd.soa_iff.1 hp
    have hw1 := hp1.2.2.1
    have hw2 := hp2.2.2.1
    rw [wireLen_eq] at hw1 hw2
    have hf2 : ne + 10 + l - 20 = ne + 10 + (labSum l1 + 1) + (labSum l2 + 1) := by omega
    have hf2' : ne + 10 + (labSum l1 + 1) + (labSum l2 + 1) + 20 ≤ u.length := by omega
    have hm := length_take_drop hf2'
    have hms := slice_ok ⟨Nat.le_add_right _ 20, hf2'⟩
    rw [Nat.add_sub_cancel_left] at hms
    generalize hme : (u.drop (ne + 10 + (labSum l1 + 1) + (labSum l2 + 1))).take 20 = m at hm hms
    have hrd : ∀ em1 em2 : Bytes, (em1 ++ em2 ++ m).length = em1.length + em2.length + 20 := fun em1 em2 => by
      rw [List.length_append, List.length_append, hm]
    obtain ⟨dict2, em1, hgen1, hle1, hpos1, hall1⟩ := copyName_any hp1 dict (O.length + 10) _ (hhl O) (hinv.append _)
    obtain ⟨dict3, em2, hgen2, hle2, hpos2, hall2⟩ := copyName_any hp2 dict2 (O.length + 10 + em1.length) _
      (by rw [List.length_append, hhl]) (hall1 _ (hhl O) (hinv.append _)).1
    obtain ⟨hd2, l1', hci1, hval1⟩ := hall1 _ (hXl (em1 ++ em2 ++ m).length) (hinv.append _)
    obtain ⟨hd3, l2', hci2, hval2⟩ := hall2 _ (by rw [List.length_append, hXl]) hd2
    obtain ⟨hel, hlt, h21, hend⟩ : (em1 ++ em2 ++ m).length ≤ l ∧ (em1 ++ em2 ++ m).length < 65536 ∧
        21 < (em1 ++ em2 ++ m).length ∧
        O.length + 10 + em1.length + em2.length + 20 = O.length + 10 + (em1 ++ em2 ++ m).length := by
      rw [hrd]
      omega
    refine ⟨dict3, em1 ++ em2 ++ m, ?_, hel, ?_, fun tl => ?_⟩
    · rw [if_neg (by decide), if_neg (by decide), if_pos (by decide)]
      have e : O ++ (u.drop ne).take 10 ++ em1 ++ em2 ++ m = O ++ (u.drop ne).take 10 ++ (em1 ++ em2 ++ m) := by
        simp only [List.append_assoc]
      have hg1 := hgen1 _ (hhl O)
      have hg2 := hgen2 (O ++ (u.drop ne).take 10 ++ em1) (by rw [List.length_append, hhl])
      simp only [DNS_RR_HEADER_SIZE, DNS_RR_RDLEN_OFFSET, hh, bind_ok, hg1, hg2, hms, e, ← hrd,
        patch16_rdlen O h10 (rd := em1 ++ em2 ++ m) rfl rfl hlt, pure_eq]
    · have := hd3.append m
      simpa only [List.append_assoc] using this
    · have hv1 := hval1 (em2 ++ m ++ tl)
      have hv2 := hval2 (m ++ tl)
      have hw := window_eq (u := O ++ ((u.drop ne).take 8 ++ put16 (em1 ++ em2 ++ m).length ++ (em1 ++ em2 ++ m)) ++ tl)
        (A := O ++ ((u.drop ne).take 8 ++ put16 (em1 ++ em2 ++ m).length) ++ em1 ++ em2) (w := m) (B := tl)
        (by simp only [List.append_assoc])
      have e1 : O ++ ((u.drop ne).take 8 ++ put16 (em1 ++ em2 ++ m).length) ++ em1 ++ (em2 ++ m ++ tl) =
          O ++ ((u.drop ne).take 8 ++ put16 (em1 ++ em2 ++ m).length ++ (em1 ++ em2 ++ m)) ++ tl := by
        simp only [List.append_assoc]
      have e2 : O ++ ((u.drop ne).take 8 ++ put16 (em1 ++ em2 ++ m).length) ++ em1 ++ em2 ++ (m ++ tl) =
          O ++ ((u.drop ne).take 8 ++ put16 (em1 ++ em2 ++ m).length ++ (em1 ++ em2 ++ m)) ++ tl := by
        simp only [List.append_assoc]
      have e20 : O.length + 10 + (em1 ++ em2 ++ m).length - 20 = O.length + 10 + em1.length + em2.length := by
        rw [hrd, ← Nat.add_assoc, Nat.add_sub_cancel, ← Nat.add_assoc]
      rw [e1] at hv1
      rw [e2] at hv2
      rw [List.length_append, List.length_append, hXl, hm] at hw
      rw [if_neg (by decide), RDataOK.soa_iff, RdCi.soa_iff, e20, hf2, hme]
      refine ⟨⟨h21, _, _, ⟨l1', hv1⟩, ⟨l2', hv2⟩, hend⟩,
        l1, l2, l1', l2', ne + 10 + (labSum l1 + 1), _, ?_, ?_, hv1, hv2, hci1, hci2, hw⟩
      · rw [← Nat.add_assoc]
        exact hp1.valid
      · rw [← Nat.add_assoc]
        exact hp2.valid
  · have hrdl : ((u.drop (ne + 10)).take l).length = l := length_take_drop hfit
    have hs : slice u ne (ne + 10 + l) = .ok ((u.drop ne).take 8 ++ put16 l ++ (u.drop (ne + 10)).take l) := by
      rw [slice_ok ⟨by omega, by omega⟩, Nat.add_assoc, Nat.add_sub_cancel_left, List.take_add, List.drop_drop,
        take10_split h10, ← hl]
    refine ⟨dict, (u.drop (ne + 10)).take l, ?_, by rw [hrdl]; exact Nat.le_refl _, ?_, fun tl => ?_⟩
    · have c1 : ¬ (t == TYPE_NS || t == TYPE_CNAME || t == TYPE_PTR) = true := by
        simpa only [Bool.or_eq_true, beq_iff_eq, or_assoc] using hns
      have c2 : ¬ (t == TYPE_MX) = true := by simpa only [beq_iff_eq] using hmx
      have c3 : ¬ (t == TYPE_SOA) = true := by simpa only [beq_iff_eq] using hsoa
      rw [if_neg c1, if_neg c2, if_neg c3, hrdl]
      simp only [unwrap, DNS_RR_HEADER_SIZE, bind_ok, hs, pure_eq]
    · exact hinv.append _
    · have hB : O ++ ((u.drop ne).take 8 ++ put16 ((u.drop (ne + 10)).take l).length ++ (u.drop (ne + 10)).take l) ++ tl =
          O ++ ((u.drop ne).take 8 ++ put16 ((u.drop (ne + 10)).take l).length) ++ (u.drop (ne + 10)).take l ++ tl := by
        simp only [List.append_assoc]
      have hc : RdCanon u t l (ne + 10) ((u.drop (ne + 10)).take l) := (RdCanon.verbatim_iff hns hmx hsoa).2 rfl
      obtain ⟨_, hok, _⟩ := rdcanon_placed hfit (hl ▸ get16_lt u (ne + 8)) hbody hc hB
      have hw := window_eq hB
      rw [hXl] at hok hw
      conv at hw => lhs; arg 1; rw [hrdl]
      exact ⟨hok, (RdCi.verbatim_iff hns hmx hsoa).2 ⟨hrdl, hw⟩⟩

theorem compress_record {pp : PP} {sec : Section} {r : RecPos} {ob oa : Bool}
    (hr : RRAtPos pp.packet sec r ob oa) (hp : PlainRec pp.packet r) (c : Cursor) (hc : posOf c = some r)
    (dict : SuffixDict) (out : Bytes) (hinv : DictInv dict out) :
    ∃ (dict' : SuffixDict) (piece : Bytes),
      compressItem pp true (dict, out) c = .ok (dict', out ++ piece) ∧
      piece.length ≤ r.next - r.off ∧ DictInv dict' (out ++ piece) ∧
      ∀ tl : Bytes, ∃ ne', RRAtPos (out ++ piece ++ tl) sec ⟨out.length, ne', out.length + piece.length⟩ ob oa ∧
        get16 (out ++ piece ++ tl) ne' = get16 pp.packet r.ne ∧
        RecCi pp.packet r (out ++ piece ++ tl) ⟨out.length, ne', out.length + piece.length⟩ := by
  obtain ⟨owner, hpo, hne, hprd⟩ := hp
  obtain ⟨_, _, _, _, hty, _, _, hlen⟩ := C03.accessors hr c hc
  obtain ⟨hoff, hnE, -⟩ := posOf_eq_some.1 hc
  have hb := hr.body
  obtain ⟨_, h10, hnext, hfit, hbody⟩ := hr
  have hfit' : r.ne + 10 + get16 pp.packet (r.ne + 8) ≤ pp.packet.length := hnext ▸ hfit
  obtain ⟨dict1, cname, hrun1, hle1, hpos1, hall1⟩ := copyName_any hpo dict out.length out rfl hinv
  have run1 := hrun1 out rfl
  obtain ⟨hd1, owner', hci1, hval1⟩ := hall1 out rfl hinv
  obtain ⟨dict', rd, hrun, hle, hd', hall⟩ := compress_rdata hfit' rfl hprd hb dict1 (out ++ cname) hd1
  have hf8 : ((pp.packet.drop r.ne).take 8).length = 8 := length_take_drop (by omega)
  have hrdlt : rd.length < 65536 := Nat.lt_of_le_of_lt hle (get16_lt _ _)
  have hvu : ValidName pp.packet r.off owner r.ne := by
    rw [hne, ← Nat.add_assoc]
    exact hpo.valid
  generalize hX : (pp.packet.drop r.ne).take 8 ++ put16 rd.length ++ rd = X at hrun hd' hall
  have hXl : X.length = 10 + rd.length := by
    rw [← hX, List.length_append, List.length_append, hf8]
    rfl
  refine ⟨dict', cname ++ X, ?_, ?_, ?_, fun tl => ⟨out.length + cname.length, ?_⟩⟩
  · unfold compressItem
    simp only [hoff, hnE, unwrap, bind_ok, run1, hty, hlen, if_true, hrun, List.append_assoc]
  · rw [List.length_append, hXl]
    omega
  · rwa [← List.append_assoc]
  · obtain ⟨hok, hci⟩ := hall tl
    have hvo := hval1 (X ++ tl)
    have hw8 := window_eq (u := out ++ cname ++ X ++ tl) (A := out ++ cname) (w := (pp.packet.drop r.ne).take 8)
      (B := put16 rd.length ++ rd ++ tl) (by rw [← hX]; simp only [List.append_assoc])
    have hl' := get16_put16_at (u := out ++ cname ++ X ++ tl) (A := out ++ cname ++ (pp.packet.drop r.ne).take 8)
      (B := rd ++ tl) (by rw [← hX]; simp only [List.append_assoc]) hrdlt
    rw [hf8] at hw8
    rw [List.length_append (bs := (pp.packet.drop r.ne).take 8), hf8] at hl'
    have hBl : (out ++ cname ++ X ++ tl).length = out.length + cname.length + (10 + rd.length) + tl.length := by
      rw [List.length_append, List.length_append, List.length_append, hXl]
    rw [← List.append_assoc] at hvo
    rw [List.length_append] at hok hci hw8 hl'
    rw [← List.append_assoc out, List.length_append, hXl, ← Nat.add_assoc, ← Nat.add_assoc]
    generalize out ++ cname ++ X ++ tl = B at hok hci hvo hw8 hl' hBl
    have hty' : get16 B (out.length + cname.length) = get16 pp.packet r.ne := take8_get16 hw8 (by omega) (by omega)
    have hBl' : out.length + cname.length + 10 + rd.length ≤ B.length := by omega
    refine ⟨⟨⟨owner', hvo⟩, Nat.le_trans (Nat.le_add_right _ _) hBl', by rw [hl'], hBl', ?_⟩,
      hty', owner, owner', hvu, hvo, hci1, hw8, by rw [hl']; exact hci⟩
    show if get16 B (out.length + cname.length) = 41 then _ else _
    rw [hty', hl']
    split
    · rename_i h41
      rw [if_pos h41] at hbody hok
      obtain ⟨hsec, hroot, hob, hoa, _⟩ := hbody
      have hown : owner = [] := owner_nil (hroot ▸ hvu)
      subst hown
      have h1 : cname.length = 1 := Nat.le_antisymm hle1 hpos1
      exact ⟨hsec, congrArg (out.length + ·) h1, hob, hoa, hok⟩
    · rename_i h41
      rw [if_neg h41] at hbody hok
      exact ⟨hok, hbody.2⟩

end Dns
