/-
  `check_compressed_name` accepts exactly the names of the policy (`checkCompressedName_ok_iff`); hence the
  position it returns lies after the start and inside the packet.
-/
import DnsModel.Lemmas.NameWalk
namespace Dns

theorem NameAt.prepend {p : Bytes} {bar low off refs len e : Nat} {ls : List (List UInt8)}
    (h1 : off < bar) (h2 : byteAt p off = some len) (h3 : 1 ≤ len) (h4 : len ≤ 63)
    (h5 : off + len + 1 ≤ p.length) (h : NameAt p bar low (off + len + 1) refs ls e) :
    NameAt p bar low off refs (lab p off len :: ls) e := by
  cases h with
  | root hl hs hb => exact NameAt.root (Labels.cons h1 h2 h3 h4 h5 hl) hs hb
  | ptr hl hs hb hhi hlo ht hnz hr hn =>
    exact NameAt.ptr (Labels.cons h1 h2 h3 h4 h5 hl) hs hb hhi hlo ht hnz hr hn

theorem wireLen_cons (l : List UInt8) (ls : List (List UInt8)) : wireLen (l :: ls) = l.length + 1 + wireLen ls := by
  simp [wireLen]; omega

theorem length_lt_wireLen (ls : List (List UInt8)) : ls.length + 1 ≤ wireLen ls := by
  induction ls with
  | nil => simp [wireLen]
  | cons l t ih => rw [wireLen_cons]; simp; omega

theorem lab_length {p : Bytes} {off len : Nat} (h : off + len + 1 ≤ p.length) : (lab p off len).length = len := by
  simp [lab]; omega

theorem Labels.le {p : Bytes} {bar off stop : Nat} {ls : List (List UInt8)} (h : Labels p bar off ls stop) : off ≤ stop := by
  induction h with
  | nil => exact Nat.le_refl _
  | cons _ _ _ _ _ _ ih => omega

theorem NameAt.lt {p : Bytes} {bar low off refs e : Nat} {ls : List (List UInt8)}
    (h : NameAt p bar low off refs ls e) : off < e := by
  cases h with
  | root hl _ _ => have := hl.le; omega
  | ptr hl _ _ _ _ _ _ _ _ => have := hl.le; omega

theorem NameAt.le {p : Bytes} {bar low off refs e : Nat} {ls : List (List UInt8)}
    (h : NameAt p bar low off refs ls e) : e ≤ p.length := by
  cases h with
  | root _ _ hb => exact byteAt_lt_length hb
  | ptr _ _ _ _ hlo _ _ _ _ => exact byteAt_lt_length hlo

theorem ccnLoop_sound (p : Bytes) (fuel : Nat) (s : NW) (e : Nat)
    (h : ccnLoop p fuel s = .ok e) :
    ∃ ls e', NameAt p s.barrier s.lowest s.offset s.refs ls e' ∧ s.nameLen + wireLen ls ≤ 255 ∧
      (∀ l ∈ ls, goodChars l = true) ∧ e = s.final.getD e' := by
  induction fuel generalizing s with
  | zero => cases h
  | succ n ih =>
    rcases ccnLoop_succ p n s with e1 | ⟨e1, _⟩ | hr | ⟨len, hl⟩ | ⟨hi, lo, hp⟩
    · rw [e1] at h; cases h
    · rw [e1] at h; cases h
    · rw [ccnLoop_root n hr] at h
      cases h
      exact ⟨[], _, .root (.nil _) hr.bar hr.byte, hr.total, nofun, rfl⟩
    · rw [ccnLoop_label n hl] at h
      obtain ⟨ls, e', hn, hw, hg, he⟩ := ih _ h
      refine ⟨_ :: ls, e', hn.prepend hl.bar hl.byte hl.pos hl.le63 hl.fits, ?_, ?_, he⟩
      · have hw : s.nameLen + len + 1 + wireLen ls ≤ 255 := hw
        rw [wireLen_cons, lab_length hl.fits]
        omega
      · intro l hm
        rcases List.mem_cons.1 hm with rfl | hm
        · exact hl.good
        · exact hg l hm
    · rw [ccnLoop_ptr n hp] at h
      obtain ⟨ls, e', hn, hw, hg, he⟩ := ih _ h
      refine ⟨ls, s.offset + 2, .ptr (.nil _) hp.bar hp.byte hp.ge hp.next hp.low hp.nz hp.refs hn, hw, hg, ?_⟩
      rw [he]
      cases s.final <;> rfl

theorem checkCompressedName_sound (p : Bytes) (off e : Nat) (h : checkCompressedName p off = .ok e) :
    ∃ ls, ValidName p off ls e := by
  unfold checkCompressedName at h
  split at h
  · cases h
  · rename_i hlt
    obtain ⟨ls, e', hn, hw, hg, he⟩ := ccnLoop_sound p _ _ e h
    have hw : 0 + wireLen ls ≤ 255 := hw
    exact ⟨ls, Nat.lt_of_not_le hlt, he ▸ hn, by omega, hg⟩

theorem checkCompressedName_ok_gt {p : Bytes} {off e : Nat} (h : checkCompressedName p off = .ok e) :
    off < e := by
  obtain ⟨ls, _, hn, _, _⟩ := checkCompressedName_sound p off e h
  exact hn.lt

theorem checkCompressedName_ok_le {p : Bytes} {off e : Nat} (h : checkCompressedName p off = .ok e) :
    e ≤ p.length := by
  obtain ⟨ls, _, hn, _, _⟩ := checkCompressedName_sound p off e h
  exact hn.le

def labSum (ls : List (List UInt8)) : Nat := (ls.map (fun l => l.length + 1)).sum

theorem wireLen_eq (ls : List (List UInt8)) : wireLen ls = labSum ls + 1 := rfl

theorem labSum_cons (l : List UInt8) (ls : List (List UInt8)) : labSum (l :: ls) = l.length + 1 + labSum ls := by
  simp [labSum]

theorem labSum_append (a b : List (List UInt8)) : labSum (a ++ b) = labSum a + labSum b := by
  simp [labSum]

theorem labSum_eq_zero {a : List (List UInt8)} (h : labSum a = 0) : a = [] := by
  cases a with
  | nil => rfl
  | cons x a => rw [labSum_cons] at h; omega

theorem labSum_snoc (pre : List (List UInt8)) (x : List UInt8) : labSum (pre ++ [x]) = labSum pre + x.length + 1 := by
  rw [labSum_append, labSum_cons, Nat.add_assoc]
  rfl

/-- across a run of labels the fuel left still covers what is left of the length budget -/
theorem ccnLoop_labels {p : Bytes} {bar off stop : Nat} {ls : List (List UInt8)} (hl : Labels p bar off ls stop) :
    ∀ (s : NW) (fuel : Nat), s.offset = off → s.barrier = bar →
      (∀ l ∈ ls, goodChars l = true) →
      s.nameLen + labSum ls + 1 ≤ 255 →
      fuel > s.refs + (255 - s.nameLen) →
      ∃ fuel', fuel' > s.refs + (255 - (s.nameLen + labSum ls)) ∧
        ccnLoop p fuel s = ccnLoop p fuel' { s with offset := stop, nameLen := s.nameLen + labSum ls } := by
  induction hl with
  | nil off =>
    intro s fuel ho _ _ _ hf
    subst ho
    exact ⟨fuel, hf, rfl⟩
  | @cons off len rest stop h1 h2 h3 h4 h5 _ ih =>
    intro s fuel ho hb hg hw hf
    subst ho hb
    rw [labSum_cons, lab_length h5] at hw ⊢
    cases fuel with
    | zero => omega
    | succ n =>
      have hl : s.AtLabel p len := ⟨h1, h2, h3, h4, h5, by omega, hg _ List.mem_cons_self⟩
      obtain ⟨fuel', hf', heq⟩ := ih { s with offset := s.offset + len + 1, nameLen := s.nameLen + len + 1 } n rfl rfl
        (fun l hl => hg l (List.mem_cons_of_mem _ hl)) (by show s.nameLen + len + 1 + labSum rest + 1 ≤ 255; omega)
        (by show n > s.refs + (255 - (s.nameLen + len + 1)); omega)
      have e : s.nameLen + (len + 1 + labSum rest) = s.nameLen + len + 1 + labSum rest := by omega
      rw [e]
      exact ⟨fuel', hf', (ccnLoop_label n hl).trans heq⟩

theorem ccnLoop_complete {p : Bytes} {bar low off refs e' : Nat} {ls : List (List UInt8)}
    (hn : NameAt p bar low off refs ls e') :
    ∀ (s : NW) (fuel : Nat), s.offset = off → s.barrier = bar → s.lowest = low → s.refs = refs →
      s.lowest ≤ s.offset →
      (∀ l ∈ ls, goodChars l = true) → s.nameLen + wireLen ls ≤ 255 →
      fuel > s.refs + (255 - s.nameLen) →
      ccnLoop p fuel s = .ok (s.final.getD e') := by
  induction hn with
  | @root bar low off refs ls stop hl hs hb =>
    intro s fuel ho hbar _ _ _ hg hw hf
    subst hbar
    rw [wireLen_eq] at hw
    obtain ⟨fuel', hf', heq⟩ := ccnLoop_labels hl s fuel ho rfl hg (by omega) hf
    rw [heq]
    cases fuel' with
    | zero => omega
    | succ n => exact ccnLoop_root n ⟨hs, hb, by show s.nameLen + labSum ls + 1 ≤ 255; omega⟩
  | @ptr bar low off refs ls ls' stop hi lo e'' hl hs hb hhi hlob ht hnz hr _ ih =>
    intro s fuel ho hbar hlow hrefs hlo hg hw hf
    subst ho hbar hlow hrefs
    rw [wireLen_eq, labSum_append] at hw
    obtain ⟨fuel', hf', heq⟩ := ccnLoop_labels hl s fuel rfl rfl (fun l h => hg l (List.mem_append_left _ h)) (by omega) hf
    rw [heq]
    cases fuel' with
    | zero => omega
    | succ n =>
      have hle := hl.le
      have := byteAt_lt_length hlob
      have hp : NW.AtPtr p { s with offset := stop, nameLen := s.nameLen + labSum ls } hi lo :=
        ⟨hs, hb, hhi, hlob, hr, by show ptrTarget hi lo ≠ stop; omega, ht, by omega, hnz⟩
      rw [ccnLoop_ptr n hp]
      have := ih { s with offset := ptrTarget hi lo, nameLen := s.nameLen + labSum ls, barrier := s.lowest,
                          lowest := ptrTarget hi lo, refs := s.refs - 1,
                          final := s.final.or (some (stop + 2)) } n rfl rfl rfl rfl
        (Nat.le_refl _) (fun l h => hg l (List.mem_append_right _ h))
        (by show s.nameLen + labSum ls + wireLen ls' ≤ 255; rw [wireLen_eq]; omega)
        (by show n > s.refs - 1 + (255 - (s.nameLen + labSum ls)); omega)
      rw [this]
      cases s.final <;> rfl

theorem checkCompressedName_complete (p : Bytes) (off e : Nat) (ls : List (List UInt8))
    (h : ValidName p off ls e) : checkCompressedName p off = .ok e := by
  obtain ⟨h1, h2, h3, h4⟩ := h
  unfold checkCompressedName
  rw [if_neg (Nat.not_le_of_lt h1)]
  exact ccnLoop_complete h2 _ _ rfl rfl rfl rfl (Nat.le_refl _) h4 (by show 0 + wireLen ls ≤ 255; omega)
    (by show nameFuel > DNS_MAX_HOSTNAME_INDIRECTIONS + (255 - 0); decide)

theorem checkCompressedName_ok_iff (p : Bytes) (off e : Nat) :
    checkCompressedName p off = .ok e ↔ ∃ ls, ValidName p off ls e :=
  ⟨checkCompressedName_sound p off e, fun ⟨ls, h⟩ => checkCompressedName_complete p off e ls h⟩

end Dns
