/-
  `Labels` / `NameAt` are stable under weakening of barrier / low / refs and under appending bytes (`byteAt` under
  `++`); `encLabels` (labels written out, no terminator) and `okLabel`; literal labels at the end of a buffer are
  `Labels` there, and followed by a pointer to an already-emitted name they decode to the concatenation
  (`NameAt.emit_ptr`): what C06/C07 write with.
-/
import DnsModel.Lemmas.NameSpec
namespace Dns

theorem Labels.mono {p : Bytes} {bar bar' off stop : Nat} {ls : List (List UInt8)}
    (h : Labels p bar off ls stop) (hb : bar ≤ bar') : Labels p bar' off ls stop := by
  induction h with
  | nil => exact Labels.nil _
  | cons h1 h2 h3 h4 h5 _ ih => exact Labels.cons (by omega) h2 h3 h4 h5 ih

theorem NameAt.mono {p : Bytes} {bar low off refs e : Nat} {ls : List (List UInt8)}
    (h : NameAt p bar low off refs ls e) :
    ∀ {bar' low' refs' : Nat}, bar ≤ bar' → low ≤ low' → refs ≤ refs' → NameAt p bar' low' off refs' ls e := by
  induction h with
  | root hl hs hb => intro bar' low' refs' h1 h2 h3; exact NameAt.root (hl.mono h1) (by omega) hb
  | ptr hl hs hb hhi hlo ht hnz hr hn ih =>
    intro bar' low' refs' h1 h2 h3
    exact NameAt.ptr (hl.mono h1) (by omega) hb hhi hlo (by omega) hnz (by omega) (ih h2 (Nat.le_refl _) (by omega))

theorem lab_append_left {p q : Bytes} {off len : Nat} (h : off + len + 1 ≤ p.length) :
    lab (p ++ q) off len = lab p off len := by
  unfold lab
  rw [List.drop_append_of_le_length (by omega), List.take_append_of_le_length (by simp; omega)]

theorem Labels.append {p q : Bytes} {bar off stop : Nat} {ls : List (List UInt8)}
    (h : Labels p bar off ls stop) : Labels (p ++ q) bar off ls stop := by
  induction h with
  | nil => exact Labels.nil _
  | @cons off len rest stop h1 h2 h3 h4 h5 _ ih =>
    have := Labels.cons (p := p ++ q) h1 (byteAt_append_left h2) h3 h4 (by simp; omega) ih
    rwa [lab_append_left h5] at this

theorem byteAt_ne_append_left {p q : Bytes} {i : Nat} (hi : i < p.length) (h : byteAt p i ≠ some 0) :
    byteAt (p ++ q) i ≠ some 0 := by
  unfold byteAt at *
  rwa [List.getElem?_append_left hi]

theorem NameAt.append {p q : Bytes} {bar low off refs e : Nat} {ls : List (List UInt8)}
    (h : NameAt p bar low off refs ls e) (hlow : low ≤ p.length) : NameAt (p ++ q) bar low off refs ls e := by
  induction h with
  | root hl hs hb => exact NameAt.root hl.append hs (byteAt_append_left hb)
  | @ptr bar low off refs ls ls' stop hi lo e' hl hs hb hhi hlo ht hnz hr hn ih =>
    exact NameAt.ptr hl.append hs (byteAt_append_left hb) hhi (byteAt_append_left hlo) ht
      (byteAt_ne_append_left (by omega) hnz) hr (ih (by omega))

/-- wire encoding of a list of labels without terminator -/
def encLabels : List (List UInt8) → Bytes
  | [] => []
  | l :: ls => UInt8.ofNat l.length :: l ++ encLabels ls

def okLabel (l : List UInt8) : Prop := 1 ≤ l.length ∧ l.length ≤ 63

theorem encLabels_length (ls : List (List UInt8)) : (encLabels ls).length = labSum ls := by
  induction ls with
  | nil => rfl
  | cons l ls ih => simp [encLabels, labSum_cons, ih]; omega

theorem Labels.of_encLabels (out : Bytes) (ls : List (List UInt8)) (tail : Bytes) (bar : Nat)
    (hok : ∀ l ∈ ls, okLabel l) (hbar : out.length + labSum ls ≤ bar) :
    Labels (out ++ encLabels ls ++ tail) bar out.length ls (out.length + labSum ls) := by
  induction ls generalizing out with
  | nil => exact Labels.nil _
  | cons l ls ih =>
    have hl := hok l List.mem_cons_self
    rw [labSum_cons] at hbar
    have e2 : (out ++ UInt8.ofNat l.length :: l).length = out.length + l.length + 1 := by
      rw [List.length_append, List.length_cons, Nat.add_assoc]
    have hrec := ih (out ++ UInt8.ofNat l.length :: l) (fun x hx => hok x (List.mem_cons_of_mem _ hx))
      (by rw [e2]; omega)
    -- the same packet, split before the length byte and after it
    have e1 : out ++ encLabels (l :: ls) ++ tail = out ++ UInt8.ofNat l.length :: (l ++ (encLabels ls ++ tail)) := by
      simp only [encLabels, List.append_assoc, List.cons_append]
    have e3 : (out ++ UInt8.ofNat l.length :: l) ++ encLabels ls ++ tail = out ++ encLabels (l :: ls) ++ tail := by
      simp only [encLabels, List.append_assoc, List.cons_append]
    rw [e3, e2] at hrec
    have hb : byteAt (out ++ encLabels (l :: ls) ++ tail) out.length = some l.length := by
      rw [e1, byteAt_append_right0, byteAt_cons_zero, UInt8.toNat_ofNat']
      exact congrArg some (Nat.mod_eq_of_lt (by have := hl.2; omega))
    have hlab : lab (out ++ encLabels (l :: ls) ++ tail) out.length l.length = l := by
      rw [e1, lab, List.append_cons, List.drop_left' (by rw [List.length_append]; rfl), List.take_left' rfl]
    have hc := Labels.cons (by omega) hb hl.1 hl.2 (by simp only [List.length_append, encLabels_length, labSum_cons]; omega) hrec
    have e4 : out.length + l.length + 1 + labSum ls = out.length + labSum (l :: ls) := by rw [labSum_cons]; omega
    rwa [hlab, e4] at hc

theorem NameAt.emit_ptr (out : Bytes) (ls ls' : List (List UInt8)) (o Po Eo d e' : Nat)
    (hent : NameAt out Eo Po o d ls' e') (hPo : Po ≤ o) (hEo : Eo ≤ out.length) (ho : o < 16384)
    (hnz : byteAt out o ≠ some 0) (holt : o < out.length)
    (hok : ∀ l ∈ ls, okLabel l) :
    let ptr : Bytes := [UInt8.ofNat (0xc0 + o / 256), UInt8.ofNat (o % 256)]
    let out' := out ++ encLabels ls ++ ptr
    NameAt out' out'.length out.length out.length (d + 1) (ls ++ ls') (out.length + labSum ls + 2) := by
  intro ptr out'
  have hlen : (out ++ encLabels ls).length = out.length + labSum ls := by rw [List.length_append, encLabels_length]
  have hlen' : out'.length = out.length + labSum ls + 2 := by rw [List.length_append, hlen]; rfl
  have hhi : byteAt out' (out.length + labSum ls) = some (0xc0 + o / 256) := by
    rw [← hlen, byteAt_append_right0, byteAt_cons_zero, UInt8.toNat_ofNat']
    exact congrArg some (Nat.mod_eq_of_lt (by omega))
  have hlo : byteAt out' (out.length + labSum ls + 1) = some (o % 256) := by
    rw [← hlen, byteAt_append_right]
    exact congrArg some (Nat.mod_eq_of_lt (Nat.mod_lt _ (by decide)))
  have htgt : ptrTarget (0xc0 + o / 256) (o % 256) = o := by unfold ptrTarget; omega
  have hsub : NameAt out' out.length o o d ls' e' := by
    have := (hent.mono hEo hPo (Nat.le_refl _)).append (q := encLabels ls ++ ptr) (Nat.le_of_lt holt)
    rwa [← List.append_assoc] at this
  have hnz' : byteAt out' o ≠ some 0 := by
    have := byteAt_ne_append_left (q := encLabels ls ++ ptr) holt hnz
    rwa [← List.append_assoc] at this
  exact NameAt.ptr (Labels.of_encLabels out ls ptr out'.length hok (by omega)) (by omega) hhi (by omega) hlo
    (by rw [htgt]; exact holt) (by rw [htgt]; exact hnz') (Nat.succ_pos d) (by rw [htgt]; exact hsub)

theorem NameAt.emit_root (out : Bytes) (ls : List (List UInt8)) (hok : ∀ l ∈ ls, okLabel l) :
    NameAt (out ++ encLabels ls ++ [0]) (out ++ encLabels ls ++ [0]).length out.length out.length 0 ls
      (out.length + labSum ls + 1) := by
  have hlen : (out ++ encLabels ls ++ [0]).length = out.length + labSum ls + 1 := by
    rw [List.length_append, List.length_append, encLabels_length]
    rfl
  refine NameAt.root (Labels.of_encLabels out ls [0] _ hok (by rw [hlen]; exact Nat.le_succ _)) (by rw [hlen]; exact Nat.lt_succ_self _) ?_
  rw [← encLabels_length, ← List.length_append, byteAt_append_right0]
  rfl

end Dns
