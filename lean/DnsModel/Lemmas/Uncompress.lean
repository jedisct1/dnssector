/-
  Towards C05.  The bridge from walks to folds (`foldRes`, `collectWalk_*`, `walkFold_collect`); the canonical form of
  data and of a record (`RdCanon`, `RecCanon`, `rdClass` and the equations per class); what `uncompress_rdata` appends
  for one record (`uncompressRdata_*`) and for a section (`fold_section`).  The packet-level result is `C05.uncompress_at`.
-/
import DnsModel.Compress
import DnsModel.Lemmas.Layout
namespace Dns
open Res

/-- running a loop body over the cursors a walk yields -/
def foldRes {σ} (body : σ → Cursor → Res σ) : σ → List Cursor → Res σ
  | st, [] => .ok st
  | st, c :: cs => (body st c).bind (fun st' => foldRes body st' cs)

theorem walkFold_collect {σ} {pp : PP} {step : PP → Cursor → Res (Option Cursor)} (body : σ → Cursor → Res σ) :
    ∀ (fuel : Nat) (c : Cursor) (cs : List Cursor), collectWalk pp step fuel c = .ok cs →
      ∀ st, walkFold pp step body fuel c st = foldRes body st cs := by
  intro fuel
  induction fuel with
  | zero => intro c cs h; cases h
  | succ n ih =>
    intro c cs h st
    rw [walkFold]
    rcases collectWalk_succ_ok h with ⟨hs, rfl⟩ | ⟨c', l, hs, hl, rfl⟩
    · rw [hs]; rfl
    · rw [hs, foldRes]
      show (body st c' >>= fun st' => walkFold pp step body n c' st') = _
      simp only [ih c' l hl, bind_def]

theorem walkFold_collect_le {σ} {pp : PP} {step : PP → Cursor → Res (Option Cursor)} (body : σ → Cursor → Res σ)
    {fuel fuel' : Nat} {c : Cursor} {cs : List Cursor} (h : collectWalk pp step fuel c = .ok cs) (hle : fuel ≤ fuel')
    (st : σ) : walkFold pp step body fuel' c st = foldRes body st cs := by
  have := collectWalk_mono fuel c cs h (fuel' - fuel)
  rw [Nat.add_sub_cancel' hle] at this
  exact walkFold_collect body fuel' c cs this st

/-- canonical data of a record of type `t` whose data is `[rs, rs + l)`: names expanded, the rest verbatim -/
def RdCanon (p : Bytes) (t l rs : Nat) (rd : Bytes) : Prop :=
  if t = 2 ∨ t = 5 ∨ t = 12 then ∃ ls, ValidName p rs ls (rs + l) ∧ rd = encLabels ls ++ [0]
  else if t = 15 then ∃ ls, ValidName p (rs + 2) ls (rs + l) ∧ rd = (p.drop rs).take 2 ++ (encLabels ls ++ [0])
  else if t = 6 then ∃ l1 l2 e1, ValidName p rs l1 e1 ∧ ValidName p e1 l2 (rs + l - 20) ∧
      rd = (encLabels l1 ++ [0]) ++ (encLabels l2 ++ [0]) ++ (p.drop (rs + l - 20)).take 20
  else rd = (p.drop rs).take l

/-- canonical form of the record at `r`: expanded owner, the eight fixed bytes, the length of the
canonical data, the canonical data -/
def RecCanon (p : Bytes) (r : RecPos) (out : Bytes) : Prop :=
  ∃ owner rd, ValidName p r.off owner r.ne ∧ RdCanon p (get16 p r.ne) (get16 p (r.ne + 8)) (r.ne + 10) rd ∧
    out = (encLabels owner ++ [0]) ++ (p.drop r.ne).take 8 ++ put16 rd.length ++ rd

/-! The record types fall into four classes by where their data holds names: one name (NS, CNAME, PTR), two bytes
and a name (MX), two names and twenty bytes (SOA), no name.  `RdCanon`, `RDataOK` and `uncompressRdata` branch
on the class in this order. -/

theorem rdClass (t : Nat) :
    (t = 2 ∨ t = 5 ∨ t = 12) ∨ t = 15 ∨ t = 6 ∨ (¬(t = 2 ∨ t = 5 ∨ t = 12) ∧ t ≠ 15 ∧ t ≠ 6) :=
  if h1 : t = 2 ∨ t = 5 ∨ t = 12 then .inl h1
  else if h2 : t = 15 then .inr (.inl h2)
  else if h3 : t = 6 then .inr (.inr (.inl h3))
  else .inr (.inr (.inr ⟨h1, h2, h3⟩))

theorem RdCanon.name_iff {p : Bytes} {t l rs : Nat} {rd : Bytes} (ht : t = 2 ∨ t = 5 ∨ t = 12) :
    RdCanon p t l rs rd ↔ ∃ ls, ValidName p rs ls (rs + l) ∧ rd = encLabels ls ++ [0] := by
  rw [RdCanon, if_pos ht]

theorem RdCanon.mx_iff {p : Bytes} {l rs : Nat} {rd : Bytes} :
    RdCanon p 15 l rs rd ↔ ∃ ls, ValidName p (rs + 2) ls (rs + l) ∧ rd = (p.drop rs).take 2 ++ (encLabels ls ++ [0]) := by
  rw [RdCanon, if_neg (by decide), if_pos rfl]

theorem RdCanon.soa_iff {p : Bytes} {l rs : Nat} {rd : Bytes} :
    RdCanon p 6 l rs rd ↔ ∃ l1 l2 e1, ValidName p rs l1 e1 ∧ ValidName p e1 l2 (rs + l - 20) ∧
      rd = (encLabels l1 ++ [0]) ++ (encLabels l2 ++ [0]) ++ (p.drop (rs + l - 20)).take 20 := by
  rw [RdCanon, if_neg (by decide), if_neg (by decide), if_pos rfl]

theorem RdCanon.verbatim_iff {p : Bytes} {t l rs : Nat} {rd : Bytes} (h1 : ¬(t = 2 ∨ t = 5 ∨ t = 12)) (h2 : t ≠ 15)
    (h3 : t ≠ 6) : RdCanon p t l rs rd ↔ rd = (p.drop rs).take l := by
  rw [RdCanon, if_neg h1, if_neg h2, if_neg h3]

theorem RDataOK.name_iff {p : Bytes} {t l rs : Nat} (ht : t = 2 ∨ t = 5 ∨ t = 12) :
    RDataOK p t l rs ↔ l ≠ 0 ∧ NameEnds p rs (rs + l) := by
  rw [RDataOK, if_pos ht]

theorem RDataOK.mx_iff {p : Bytes} {l rs : Nat} : RDataOK p 15 l rs ↔ 2 < l ∧ NameEnds p (rs + 2) (rs + l) := by
  rw [RDataOK, if_neg (by decide), if_pos rfl]

theorem RDataOK.soa_iff {p : Bytes} {l rs : Nat} :
    RDataOK p 6 l rs ↔ 21 < l ∧ ∃ e1 e2, NameEnds p rs e1 ∧ NameEnds p e1 e2 ∧ e2 + 20 = rs + l := by
  rw [RDataOK, if_neg (by decide), if_neg (by decide), if_pos rfl]

theorem RDataOK.verbatim_iff {p : Bytes} {t l rs : Nat} (h1 : ¬(t = 2 ∨ t = 5 ∨ t = 12)) (h2 : t ≠ 15) (h3 : t ≠ 6) :
    RDataOK p t l rs ↔
      if t = 39 then l ≠ 0 ∧ PlainName p rs (rs + l) else if t = 1 then l = 4 else if t = 28 then l = 16 else True := by
  rw [RDataOK, if_neg h1, if_neg h2, if_neg h3]

/-- patching the data length into the ten fixed bytes copied before the data `rd` -/
theorem patch16_rdlen (out : Bytes) {p : Bytes} {ne : Nat} (h10 : ne + 10 ≤ p.length) {buf rd : Bytes} {v : Nat}
    (hb : buf = out ++ (p.drop ne).take 10 ++ rd) (hv : rd.length = v) (hrd : rd.length < 65536) :
    patch16 buf (out.length + 8) v = .ok (out ++ ((p.drop ne).take 8 ++ put16 rd.length ++ rd)) := by
  subst hb hv
  have hl : ((p.drop ne).take 10).length = 10 := length_take_drop h10
  have h2 : (put16 (rd.length % 65536)).length = 2 := rfl
  rw [patch16, writeAt_ok (by rw [h2, List.length_append, List.length_append, hl]; omega), h2, Nat.mod_eq_of_lt hrd,
    List.append_assoc out, List.take_length_add_append, Nat.add_assoc, List.drop_length_add_append,
    List.take_append_of_le_length (by omega), List.drop_append_of_le_length (by omega), List.take_take,
    List.drop_of_length_le (Nat.le_of_eq hl)]
  simp only [List.append_assoc]
  rfl

theorem encLen_le {p : Bytes} {off e : Nat} {ls : List (List UInt8)} (h : ValidName p off ls e) :
    (encLabels ls ++ [0]).length ≤ 255 := by
  have := h.2.2.1
  rw [wireLen_eq] at this
  rw [List.length_append, encLabels_length]
  exact this

theorem uncompressRdata_question (out p : Bytes) (ne : Nat) (l : Option Nat) :
    uncompressRdata out p ne none l = (do
      let _ ← sliceFrom p ne
      let h ← slice p ne (ne + 4)
      pure (out ++ h)) := rfl

theorem uncompressRdata_name {t : Nat} (ht : t = 2 ∨ t = 5 ∨ t = 12) (out p : Bytes) (ne : Nat) (l : Option Nat) :
    uncompressRdata out p ne (some t) l = (do
      let _ ← sliceFrom p ne
      let h ← slice p ne (ne + 10)
      let (n, _) ← copyUncompressedName p (ne + 10)
      patch16 (out ++ h ++ n) (out.length + 8) n.length) := by
  rcases ht with rfl | rfl | rfl <;> rfl

theorem uncompressRdata_mx (out p : Bytes) (ne : Nat) (l : Option Nat) :
    uncompressRdata out p ne (some 15) l = (do
      let _ ← sliceFrom p ne
      let h ← slice p ne (ne + 10 + 2)
      let (n, _) ← copyUncompressedName p (ne + 10 + 2)
      patch16 (out ++ h ++ n) (out.length + 8) (2 + n.length)) := rfl

theorem uncompressRdata_soa (out p : Bytes) (ne : Nat) (l : Option Nat) :
    uncompressRdata out p ne (some 6) l = (do
      let _ ← sliceFrom p ne
      let h ← slice p ne (ne + 10)
      let (n1, f1) ← copyUncompressedName p (ne + 10)
      let (n2, f2) ← copyUncompressedName p f1
      let soaMeta ← slice p f2 (f2 + 20)
      patch16 (out ++ h ++ n1 ++ n2 ++ soaMeta) (out.length + 8) (n1.length + n2.length + 20)) := rfl

theorem uncompressRdata_verbatim {t : Nat} (h1 : ¬(t = 2 ∨ t = 5 ∨ t = 12)) (h2 : t ≠ 15) (h3 : t ≠ 6)
    (out p : Bytes) (ne l : Nat) :
    uncompressRdata out p ne (some t) (some l) = (do
      let _ ← sliceFrom p ne
      let h ← slice p ne (ne + 10 + l)
      pure (out ++ h)) := by
  have c1 : (t == TYPE_NS || t == TYPE_CNAME || t == TYPE_PTR) = false := by
    simpa only [Bool.or_eq_false_iff, beq_eq_false_iff_ne, ne_eq, not_or, and_assoc] using h1
  have c2 : (t == TYPE_MX) = false := beq_eq_false_iff_ne.2 h2
  have c3 : (t == TYPE_SOA) = false := beq_eq_false_iff_ne.2 h3
  simp only [uncompressRdata, c1, c2, c3, Bool.false_eq_true, if_false]
  rfl

theorem uncompressRdata_name_ok {t : Nat} (ht : t = 2 ∨ t = 5 ∨ t = 12) (out : Bytes) {p n : Bytes} {ne e : Nat}
    (h10 : ne + 10 ≤ p.length) (hc : copyUncompressedName p (ne + 10) = .ok (n, e)) (hn : n.length < 65536)
    (l : Option Nat) :
    uncompressRdata out p ne (some t) l = .ok (out ++ ((p.drop ne).take 8 ++ put16 n.length ++ n)) := by
  rw [uncompressRdata_name ht, sliceFrom_ok (by omega), bind_ok, slice_add h10, bind_ok, hc, bind_ok]
  exact patch16_rdlen out h10 rfl rfl hn

theorem uncompressRdata_mx_ok (out : Bytes) {p n : Bytes} {ne e : Nat} (h12 : ne + 10 + 2 ≤ p.length)
    (hc : copyUncompressedName p (ne + 10 + 2) = .ok (n, e)) (hn : 2 + n.length < 65536) (l : Option Nat) :
    uncompressRdata out p ne (some 15) l =
      .ok (out ++ ((p.drop ne).take 8 ++ put16 ((p.drop (ne + 10)).take 2 ++ n).length ++
        ((p.drop (ne + 10)).take 2 ++ n))) := by
  have hs : slice p ne (ne + 10 + 2) = .ok ((p.drop ne).take 10 ++ (p.drop (ne + 10)).take 2) := by
    rw [Nat.add_assoc, slice_add (by omega), window_split]
  have hl : ((p.drop (ne + 10)).take 2 ++ n).length = 2 + n.length := by
    rw [List.length_append, length_take_drop h12]
  rw [uncompressRdata_mx, sliceFrom_ok (by omega), bind_ok, hs, bind_ok, hc, bind_ok]
  exact patch16_rdlen out (by omega) (by simp only [List.append_assoc]) hl (by rw [hl]; exact hn)

theorem uncompressRdata_soa_ok (out : Bytes) {p n1 n2 : Bytes} {ne e1 e2 : Nat} (h10 : ne + 10 ≤ p.length)
    (hc1 : copyUncompressedName p (ne + 10) = .ok (n1, e1)) (hc2 : copyUncompressedName p e1 = .ok (n2, e2))
    (h20 : e2 + 20 ≤ p.length) (hn : n1.length + n2.length + 20 < 65536) (l : Option Nat) :
    uncompressRdata out p ne (some 6) l =
      .ok (out ++ ((p.drop ne).take 8 ++ put16 (n1 ++ n2 ++ (p.drop e2).take 20).length ++
        (n1 ++ n2 ++ (p.drop e2).take 20))) := by
  have hl : (n1 ++ n2 ++ (p.drop e2).take 20).length = n1.length + n2.length + 20 := by
    rw [List.length_append, List.length_append, length_take_drop h20]
  rw [uncompressRdata_soa, sliceFrom_ok (by omega), bind_ok, slice_add h10, bind_ok, hc1, bind_ok]
  show (copyUncompressedName p e1 >>= _) = _
  rw [hc2, bind_ok]
  show (slice p e2 (e2 + 20) >>= _) = _
  rw [slice_add h20, bind_ok]
  exact patch16_rdlen out h10 (by simp only [List.append_assoc]) hl (by rw [hl]; exact hn)

theorem uncompressRdata_verbatim_ok {t : Nat} (h1 : ¬(t = 2 ∨ t = 5 ∨ t = 12)) (h2 : t ≠ 15) (h3 : t ≠ 6)
    (out : Bytes) {p : Bytes} {ne : Nat} (hfit : ne + 10 + get16 p (ne + 8) ≤ p.length) :
    uncompressRdata out p ne (some t) (some (get16 p (ne + 8))) =
      .ok (out ++ ((p.drop ne).take 8 ++ put16 ((p.drop (ne + 10)).take (get16 p (ne + 8))).length ++
        (p.drop (ne + 10)).take (get16 p (ne + 8)))) := by
  -- the ten fixed bytes and the data, read as: eight bytes, the data length, the data
  have e : 10 + get16 p (ne + 8) = 8 + (2 + get16 p (ne + 8)) := by omega
  rw [uncompressRdata_verbatim h1 h2 h3, sliceFrom_ok (by omega), bind_ok, Nat.add_assoc, slice_add (by omega),
    bind_ok, length_take_drop hfit, ← put16_get16 (by omega : ne + 8 + 2 ≤ p.length), List.append_assoc,
    ← window_split p (ne + 8) 2, ← window_split p ne 8, e]
  rfl

theorem uncompressRdata_canon {p : Bytes} {sec : Section} {r : RecPos} {ob oa : Bool} (hr : RRAtPos p sec r ob oa) :
    ∃ rd, RdCanon p (get16 p r.ne) (get16 p (r.ne + 8)) (r.ne + 10) rd ∧
      ∀ out, uncompressRdata out p r.ne (some (get16 p r.ne)) (some (get16 p (r.ne + 8))) =
        .ok (out ++ ((p.drop r.ne).take 8 ++ put16 rd.length ++ rd)) := by
  obtain ⟨_, h10, hnext, hfit, hbody⟩ := hr
  rw [hnext] at hfit
  generalize get16 p r.ne = t at hbody ⊢
  -- OPT is copied like the types without names; otherwise the policy provides the names
  rcases rdClass t with ht | rfl | rfl | ⟨h1, h2, h3⟩
  · rw [if_neg (by omega), RDataOK.name_iff ht] at hbody
    obtain ⟨⟨_, ls, hv⟩, _⟩ := hbody
    exact ⟨_, (RdCanon.name_iff ht).2 ⟨ls, hv, rfl⟩, fun out =>
      uncompressRdata_name_ok ht out h10 (copyUncompressedName_valid hv) (by have := encLen_le hv; omega) _⟩
  · rw [if_neg (by decide), RDataOK.mx_iff] at hbody
    obtain ⟨⟨_, ls, hv⟩, _⟩ := hbody
    exact ⟨_, RdCanon.mx_iff.2 ⟨ls, hv, rfl⟩, fun out =>
      uncompressRdata_mx_ok out (by omega) (copyUncompressedName_valid hv) (by have := encLen_le hv; omega) _⟩
  · rw [if_neg (by decide), RDataOK.soa_iff] at hbody
    obtain ⟨⟨_, e1, e2, ⟨l1, hv1⟩, ⟨l2, hv2⟩, he2⟩, _⟩ := hbody
    rw [← he2] at hfit
    have he : r.ne + 10 + get16 p (r.ne + 8) - 20 = e2 := Nat.sub_eq_of_eq_add he2.symm
    exact ⟨_, RdCanon.soa_iff.2 ⟨l1, l2, e1, hv1, he ▸ hv2, by rw [he]⟩, fun out =>
      uncompressRdata_soa_ok out h10 (copyUncompressedName_valid hv1) (copyUncompressedName_valid hv2) hfit
        (by have := encLen_le hv1; have := encLen_le hv2; omega) _⟩
  · exact ⟨_, (RdCanon.verbatim_iff h1 h2 h3).2 rfl, fun out => uncompressRdata_verbatim_ok h1 h2 h3 out hfit⟩

theorem uncompressItem_rec {pp : PP} {sec : Section} {r : RecPos} {ob oa : Bool}
    (hr : RRAtPos pp.packet sec r ob oa) (c : Cursor) (hc : posOf c = some r) :
    ∃ rc, RecCanon pp.packet r rc ∧ ∀ (ref : Nat) (st : UState),
      uncompressItem pp ref true st c =
        .ok { out := st.out ++ rc, newOffset := if ref = r.off then some st.out.length else st.newOffset } := by
  obtain ⟨owner, hv, hraw, _, hty, _, _, hlen⟩ := C03.accessors hr c hc
  obtain ⟨hoff, hne, _⟩ := posOf_eq_some.1 hc
  obtain ⟨rd, hrd, hun⟩ := uncompressRdata_canon hr
  refine ⟨_, ⟨owner, rd, hv, hrd, rfl⟩, fun ref st => ?_⟩
  unfold uncompressItem
  simp only [hoff, hne, hraw, hty, hlen, bind_ok, unwrap, if_true, pure_eq, Option.some_beq_some, beq_iff_eq,
    apply_ite UState.out, apply_ite UState.newOffset, ite_self, hun, List.append_assoc]

/-- the question's canonical form: expanded name, type and class -/
def QCanon (p : Bytes) (qe : Nat) (out : Bytes) : Prop :=
  ∃ ls, ValidName p 12 ls qe ∧ out = (encLabels ls ++ [0]) ++ (p.drop qe).take 4

theorem uncompressItem_question {pp : PP} {qe : Nat} {ls : List (List UInt8)} (hv : ValidName pp.packet 12 ls qe)
    (hq4 : qe + 4 ≤ pp.packet.length) (ref : Nat) (st : UState) :
    uncompressItem pp ref false st ⟨.question, some 12, qe + 4, qe, 0⟩ =
      .ok { out := st.out ++ ((encLabels ls ++ [0]) ++ (pp.packet.drop qe).take 4),
            newOffset := if ref = 12 then some st.out.length else st.newOffset } := by
  have hraw : Cursor.rawName pp.packet ⟨.question, some 12, qe + 4, qe, 0⟩ = .ok (encLabels ls ++ [0]) := by
    simp only [Cursor.rawName, unwrap, bind_ok, if_neg (Nat.not_le.2 hv.2.1.lt), copyUncompressedName_valid hv, pure_eq]
  unfold uncompressItem
  simp only [hraw, bind_ok, unwrap, Bool.false_eq_true, if_false, pure_eq, Option.some_beq_some, beq_iff_eq,
    apply_ite UState.out, apply_ite UState.newOffset, ite_self, uncompressRdata_question,
    sliceFrom_ok (Nat.le_of_add_right_le hq4), slice_add hq4, List.append_assoc]

/-- canonical forms of a run of records, one piece per record -/
inductive CanonRun (p : Bytes) : List RecPos → List Bytes → Prop
  | nil : CanonRun p [] []
  | cons {r : RecPos} {l : List RecPos} {rc : Bytes} {ps : List Bytes} :
      RecCanon p r rc → CanonRun p l ps → CanonRun p (r :: l) (rc :: ps)

/-- where `ref` lands: the output position of the record that starts at `ref`, if any -/
def carry (ref : Nat) : List RecPos → List Bytes → Nat → Option Nat → Option Nat
  | r :: l, pc :: ps, base, prev => carry ref l ps (base + pc.length) (if ref = r.off then some base else prev)
  | _, _, _, prev => prev

theorem fold_section {pp : PP} {sec : Section} {l : List RecPos} {off e : Nat} {ob oe : Bool}
    (hl : RRsL pp.packet sec l off ob e oe) :
    ∀ (cs : List Cursor), cs.map posOf = l.map some →
      ∃ ps, CanonRun pp.packet l ps ∧ ∀ (ref : Nat) (st : UState),
        foldRes (uncompressItem pp ref true) st cs =
          .ok { out := st.out ++ ps.flatten, newOffset := carry ref l ps st.out.length st.newOffset } := by
  induction hl with
  | nil off o =>
    intro cs hcs
    obtain rfl := List.map_eq_nil_iff.1 hcs
    exact ⟨[], .nil, fun ref st => by rw [foldRes, List.flatten_nil, List.append_nil]; rfl⟩
  | @cons r l e ob om oe hr _ ih =>
    intro cs hcs
    obtain ⟨c, cs, rfl, hc, hcs⟩ := List.map_eq_cons_iff.1 hcs
    obtain ⟨rc, hrc, hitem⟩ := uncompressItem_rec hr c hc
    obtain ⟨ps, hps, hfold⟩ := ih cs hcs
    refine ⟨rc :: ps, .cons hrc hps, fun ref st => ?_⟩
    rw [foldRes, hitem, Res.bind, hfold, List.flatten_cons, carry, List.length_append, List.append_assoc]

end Dns
