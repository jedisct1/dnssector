/-
  The EDNS summary as a function of the additional section's pieces and its start:
  `EdnsOf R s i`.  The summary `parse` reports for an assembled packet is the one its pieces determine.
-/
import DnsModel.Lemmas.PieceShape
namespace Dns
open Res

/-- the OPT pseudo-record: root owner (one zero byte), type 41 read right after it -/
def isOptPiece (rc : Bytes) : Bool := getB rc 0 == 0 && get16 rc 1 == 41

/-- an OPT piece lying at `s`, with `n` options.  After the root owner (1 byte) and the type (2): the class field at 3 is
the payload size, the TTL field at 5–8 holds extended rcode, version and flags, the data length is at 9, so the options
start at `s + 11` -/
def pieceInfo (rc : Bytes) (s n : Nat) : EdnsInfo :=
  ⟨some (s + 11), n, some (getB rc 5), some (getB rc 6), some (get16 rc 7), get16 rc 3⟩

/-- the summary of a run of pieces starting at `s`: that of its first OPT piece, if any -/
inductive EdnsOf : List Bytes → Nat → EdnsInfo → Prop
  | nil (s : Nat) : EdnsOf [] s EdnsInfo.none
  | skip {rc : Bytes} {R : List Bytes} {s : Nat} {i : EdnsInfo} : isOptPiece rc = false → EdnsOf R (s + rc.length) i → EdnsOf (rc :: R) s i
  | opt {rc : Bytes} {R : List Bytes} {s n : Nat} : isOptPiece rc = true → OptionsTile rc 11 rc.length n →
      EdnsOf (rc :: R) s (pieceInfo rc s n)

theorem EdnsOf.functional {R : List Bytes} {s : Nat} {i j : EdnsInfo} (h1 : EdnsOf R s i) (h2 : EdnsOf R s j) : i = j := by
  induction h1 with
  | nil s => cases h2; rfl
  | skip hn _ ih =>
    cases h2 with
    | skip _ h => exact ih h
    | opt ho _ => rw [hn] at ho; cases ho
  | opt ho ht =>
    cases h2 with
    | skip hn _ => rw [ho] at hn; cases hn
    | opt _ ht' => rw [ht.functional ht']

theorem enc_root_iff (owner : List (List UInt8)) (hok : ∀ l ∈ owner, okLabel l) (rest : Bytes) :
    (owner = [] ↔ getB ((encLabels owner ++ [0]) ++ rest) 0 = 0) := by
  cases owner with
  | nil => simp [encLabels, getB, byteAt]
  | cons l ls =>
    have hl := hok l (by simp)
    simp only [reduceCtorEq, false_iff]
    simp only [encLabels, getB, byteAt, List.cons_append, List.getElem?_cons_zero, Option.map_some, Option.getD_some]
    have : (UInt8.ofNat l.length).toNat = l.length := by
      simp only [UInt8.toNat_ofNat']
      have := hl.2
      omega
    rw [this]
    have := hl.1
    omega

theorem selfcanon_root {p : Bytes} {sec : Section} {r : RecPos} {ob oa : Bool} (hr : RRAtPos p sec r ob oa) (hs : SelfCanon p r) :
    r.ne = r.off + 1 ↔ getB p r.off = 0 := by
  obtain ⟨h1, h2, h3⟩ := hr.pos_len
  obtain ⟨owner, rd, hvo, hrd, hrc⟩ := hs
  have hgo := validName_ok hvo
  have hsplit : p = p.take r.off ++ (encLabels owner ++ [0]) ++ (((p.drop r.ne).take 8 ++ put16 rd.length ++ rd) ++ p.drop r.next) := by
    have e : p = p.take r.off ++ ((p.drop r.off).take (r.next - r.off)) ++ p.drop r.next := by
      have e2 : p.drop r.next = (p.drop r.off).drop (r.next - r.off) := by rw [List.drop_drop]; congr 1; omega
      rw [e2, List.append_assoc, List.take_append_drop, List.take_append_drop]
    conv => lhs; rw [e, hrc]
    simp
  have hv := validName_at hsplit hgo.1 hgo.2.1 hgo.2.2
  have htl : (p.take r.off).length = r.off := by simp; omega
  rw [htl] at hv
  have hne : r.ne = r.off + labSum owner + 1 := (validName_functional hvo hv).2
  have hb : getB p r.off = getB ((encLabels owner ++ [0]) ++ (((p.drop r.ne).take 8 ++ put16 rd.length ++ rd) ++ p.drop r.next)) 0 := by
    conv => lhs; rw [hsplit, List.append_assoc]
    have := getB_append_right (p.take r.off) ((encLabels owner ++ [0]) ++ (((p.drop r.ne).take 8 ++ put16 rd.length ++ rd) ++ p.drop r.next)) 0
    rwa [htl, Nat.add_zero] at this
  rw [hb, ← enc_root_iff owner hgo.1 _]
  constructor
  · intro h
    have : labSum owner = 0 := by omega
    cases owner with
    | nil => rfl
    | cons l ls => simp [labSum] at this
  · intro h; rw [hne, h]; simp [labSum]

theorem getB_window {p w : Bytes} {a n : Nat} (h : Agree p w a 0 n) {i : Nat} (hi : i < n) : getB w i = getB p (a + i) := by
  have := getB_of_agree h hi
  simpa using this

theorem get16_window {p w : Bytes} {a n : Nat} (h : Agree p w a 0 n) {i : Nat} (hi : i + 2 ≤ n) : get16 w i = get16 p (a + i) := by
  have := h.get16 (i := i) hi
  simpa using this

/-- each piece of a self-canonical run is the window its record occupies, and the record is the OPT record exactly when
its owner is the root and its type 41: so the first OPT of the run and of the pieces are the same, with the same fields -/
theorem ednsOf_of_run {p : Bytes} : ∀ {l : List RecPos} {R : List Bytes} {off e : Nat} {ob oe : Bool},
    RRsL p .additional l off ob e oe → CanonRun p l R → (∀ r ∈ l, SelfCanon p r) → ∀ (i : EdnsInfo),
    (match firstOpt p l with
      | none => i = EdnsInfo.none
      | some r => ∃ n, OptionsTile p (r.ne + 10) (r.ne + 10 + get16 p (r.ne + 8)) n ∧ i = optInfo p r.ne n) →
    EdnsOf R off i := by
  intro l
  induction l with
  | nil =>
    intro R off e ob oe _ hc _ i hi
    cases hc
    simp only [firstOpt, List.find?_nil] at hi
    subst hi
    exact EdnsOf.nil _
  | cons r l ih =>
    intro R off e ob oe hl hc hself i hi
    obtain ⟨hoff, om, hr, hrest⟩ := hl.cons_inv
    subst hoff
    cases hc with
    | @cons _ _ rc ps hcr hcrest =>
      have hsr := hself r (by simp)
      have hrc : rc = (p.drop r.off).take (r.next - r.off) := hcr.functional hsr
      have hroot := selfcanon_root hr hsr
      have hlen : ((p.drop r.off).take (r.next - r.off)).length = r.next - r.off := length_take_drop (by have := hr.pos_len; omega)
      have hag := agree_window p r.off (r.next - r.off)
      rw [← hrc] at hlen hag
      obtain ⟨h1, h2, h3⟩ := hr.pos_len
      have hnext : r.next = r.off + rc.length := by omega
      have h11 : 11 ≤ r.next - r.off := by omega
      by_cases h41 : get16 p r.ne = 41
      · have hfo : firstOpt p (r :: l) = some r := by simp [firstOpt, h41]
        rw [hfo] at hi
        obtain ⟨n, ht, rfl⟩ := hi
        have hb := hr.2.2.2.2
        simp only [h41, if_true] at hb
        obtain ⟨_, hne, _, _, _⟩ := hb
        have hz : getB p r.off = 0 := hroot.1 hne
        have hopt : isOptPiece rc = true := by
          unfold isOptPiece
          rw [getB_window hag (i := 0) (Nat.lt_of_lt_of_le (by decide) h11), get16_window hag (i := 1) (Nat.le_trans (by decide) h11),
            Nat.add_zero, hz, ← hne, h41]
          rfl
        have hnx : r.ne + 10 + get16 p (r.ne + 8) = r.next := hr.2.2.1.symm
        rw [hnx] at ht
        have ht' : OptionsTile rc 11 rc.length n := by
          have hagt : Agree p rc (r.ne + 10) 11 (r.next - (r.ne + 10)) := by
            have := hag.shift 11 h11
            have e1 : r.off + 11 = r.ne + 10 := by omega
            have e2 : r.next - r.off - 11 = r.next - (r.ne + 10) := by omega
            rw [e1, e2] at this
            simpa using this
          have := ht.translate rc 11 hagt
          have e : 11 + (r.next - (r.ne + 10)) = rc.length := by omega
          rw [e] at this
          exact this
        have hinfo : optInfo p r.ne n = pieceInfo rc r.off n := by
          unfold optInfo pieceInfo
          rw [getB_window hag (i := 5) (Nat.lt_of_lt_of_le (by decide) h11), getB_window hag (i := 6) (Nat.lt_of_lt_of_le (by decide) h11),
            get16_window hag (i := 7) (Nat.le_trans (by decide) h11), get16_window hag (i := 3) (Nat.le_trans (by decide) h11), hne]
        rw [hinfo]
        exact EdnsOf.opt hopt ht'
      · have hfo : firstOpt p (r :: l) = firstOpt p l := by simp [firstOpt, h41]
        rw [hfo] at hi
        have hnopt : isOptPiece rc = false := by
          unfold isOptPiece
          rw [getB_window hag (i := 0) (Nat.lt_of_lt_of_le (by decide) h11), get16_window hag (i := 1) (Nat.le_trans (by decide) h11),
            Nat.add_zero]
          by_cases hz : getB p r.off = 0
          · have hne := hroot.2 hz
            rw [← hne]
            simp [h41]
          · simp [hz]
        have := ih hrest hcrest (fun r' hr' => hself r' (by simp [hr'])) i hi
        rw [hnext] at this
        exact EdnsOf.skip hnopt this

/-- the EDNS summary an object holds -/
def PP.ednsInfo (pp : PP) : EdnsInfo := ⟨pp.offsetEdns, pp.ednsCount, pp.extRcode, pp.ednsVersion, pp.extFlags, pp.maxPayload⟩

theorem PlainObj.parse_info {pp : PP} (P : PlainObj pp) {v : View} (hv : parse pp.packet = .ok v) :
    EdnsOf P.R (P.start .additional) v.info := by
  obtain ⟨L, _, he3, cr, hself⟩ := P.layout
  obtain ⟨L0, _, _, _, _, _, _, hinfo⟩ := C03.layout_full hv
  obtain ⟨_, _, _, er0⟩ := C05.layout_unique L0 L
  rw [er0] at hinfo
  have := ednsOf_of_run L.hr cr (fun r hr => hself r (by simp [hr])) v.info hinfo
  rw [he3] at this
  exact this

/-- the object's EDNS summary is the one its pieces determine -/
def EdnsOK {pp : PP} (P : PlainObj pp) : Prop := EdnsOf P.R (P.start .additional) pp.ednsInfo

theorem EdnsOK.matches_parse {pp : PP} {P : PlainObj pp} (h : EdnsOK P) {v : View} (hv : parse pp.packet = .ok v) :
    pp.offsetEdns = v.offsetEdns ∧ pp.ednsCount = v.ednsCount ∧ pp.extRcode = v.extRcode ∧ pp.ednsVersion = v.ednsVersion ∧
    pp.extFlags = v.extFlags ∧ pp.maxPayload = v.maxPayload := by
  have := h.functional (P.parse_info hv)
  unfold PP.ednsInfo View.info at this
  simp only [EdnsInfo.mk.injEq] at this
  exact this

/-- the summary with its position mapped by `f` -/
def EdnsInfo.moved (i : EdnsInfo) (f : Nat → Nat) : EdnsInfo := { i with start := i.start.map f }

theorem EdnsOf.shift {R : List Bytes} {s : Nat} {i : EdnsInfo} (h : EdnsOf R s i) (s' : Nat) :
    EdnsOf R s' (i.moved (fun x => x + s' - s)) := by
  induction h generalizing s' with
  | nil s => exact EdnsOf.nil _
  | @skip rc R s i hn _ ih =>
    have := ih (s' + rc.length)
    have e : (fun x => x + (s' + rc.length) - (s + rc.length)) = (fun x => x + s' - s) := by
      funext x; omega
    rw [e] at this
    exact EdnsOf.skip hn this
  | @opt rc R s n ho ht =>
    have : (pieceInfo rc s n).moved (fun x => x + s' - s) = pieceInfo rc s' n := by
      unfold pieceInfo EdnsInfo.moved
      simp only [Option.map_some, EdnsInfo.mk.injEq, Option.some.injEq, and_true]
      omega
    rw [this]
    exact EdnsOf.opt ho ht

theorem EdnsOf.start_ge {R : List Bytes} {s : Nat} {i : EdnsInfo} (h : EdnsOf R s i) : ∀ x, i.start = some x → s + 11 ≤ x := by
  induction h with
  | nil s => intro x hx; simp [EdnsInfo.none] at hx
  | skip _ _ ih => intro x hx; have := ih x hx; omega
  | opt _ _ => intro x hx; simp [pieceInfo] at hx; omega

theorem optionsTile_le {p : Bytes} {a b n : Nat} (ht : OptionsTile p a b n) : a ≤ b := by
  induction ht with
  | done => exact Nat.le_refl _
  | opt h _ ih => omega

theorem EdnsOf.none_of_noopt {R : List Bytes} (h : ∀ rc ∈ R, isOptPiece rc = false) (s : Nat) : EdnsOf R s EdnsInfo.none := by
  induction R generalizing s with
  | nil => exact EdnsOf.nil _
  | cons rc R ih => exact EdnsOf.skip (h rc (by simp)) (ih (fun r hr => h r (by simp [hr])) _)

theorem EdnsOf.append {R : List Bytes} {s : Nat} {i : EdnsInfo} (h : EdnsOf R s i) (rr : Bytes) (hn : isOptPiece rr = false) :
    EdnsOf (R ++ [rr]) s i := by
  induction h with
  | nil s => exact EdnsOf.skip hn (EdnsOf.nil _)
  | skip hn' _ ih => exact EdnsOf.skip hn' ih
  | opt ho ht => exact EdnsOf.opt ho ht

theorem EdnsOf.skip_all {mid R : List Bytes} {s : Nat} {i : EdnsInfo} (hm : ∀ r ∈ mid, isOptPiece r = false)
    (h : EdnsOf R (s + mid.flatten.length) i) : EdnsOf (mid ++ R) s i := by
  induction mid generalizing s with
  | nil => exact h
  | cons y mid ih =>
    refine EdnsOf.skip (hm y List.mem_cons_self) (ih (fun r hr => hm r (List.mem_cons_of_mem _ hr)) ?_)
    rwa [List.flatten_cons, List.length_append, ← Nat.add_assoc] at h

theorem EdnsOf.splice {R1 R2 mid : List Bytes} {rc : Bytes} {s : Nat} {i : EdnsInfo}
    (h : EdnsOf (R1 ++ rc :: R2) s i) (hn : isOptPiece rc = false) (hm : ∀ r ∈ mid, isOptPiece r = false) :
    EdnsOf (R1 ++ mid ++ R2) s
      (i.moved (fun x => if s + R1.flatten.length < x then x + mid.flatten.length - rc.length else x)) := by
  induction R1 generalizing s with
  | nil =>
    cases h with
    | skip _ hrest =>
      -- the position, if any, lies in `R2`: the whole of `R2` moves
      have e : i.moved (fun x => x + (s + mid.flatten.length) - (s + rc.length)) =
          i.moved (fun x => if s + ([] : List Bytes).flatten.length < x then x + mid.flatten.length - rc.length else x) := by
        unfold EdnsInfo.moved
        congr 1
        cases hst : i.start with
        | none => rfl
        | some x =>
          have := hrest.start_ge x hst
          rw [Option.map_some, Option.map_some, if_pos (show s + ([] : List Bytes).flatten.length < x by
            rw [List.flatten_nil, List.length_nil]; omega)]
          congr 1
          omega
      rw [← e]
      exact EdnsOf.skip_all hm (hrest.shift _)
    | opt ho _ => rw [hn] at ho; cases ho
  | cons y R1 ih =>
    cases h with
    | skip hy hrest =>
      have := ih hrest
      rw [Nat.add_assoc, ← List.length_append, ← List.flatten_cons] at this
      exact EdnsOf.skip hy this
    | @opt _ _ _ n ho ht =>
      -- the position lies in `y`, before the edit
      have hl := optionsTile_le ht
      have e : (pieceInfo y s n).moved (fun x => if s + (y :: R1).flatten.length < x then x + mid.flatten.length - rc.length else x) =
          pieceInfo y s n := by
        unfold pieceInfo EdnsInfo.moved
        rw [Option.map_some, if_neg (by rw [List.flatten_cons, List.length_append]; omega)]
      rw [e]
      exact EdnsOf.opt ho ht

theorem EdnsOf.replace {R1 R2 : List Bytes} {rc rc' : Bytes} {s : Nat} {i : EdnsInfo}
    (h : EdnsOf (R1 ++ rc :: R2) s i) (hn : isOptPiece rc = false) (hn' : isOptPiece rc' = false) :
    EdnsOf (R1 ++ rc' :: R2) s
      (i.moved (fun x => if s + R1.flatten.length < x then x + rc'.length - rc.length else x)) := by
  have := h.splice hn (mid := [rc']) (fun r hr => by rw [List.mem_singleton.1 hr]; exact hn')
  simpa only [List.flatten_cons, List.flatten_nil, List.append_nil, List.append_assoc, List.singleton_append] using this

theorem EdnsOf.remove {R1 R2 : List Bytes} {rc : Bytes} {s : Nat} {i : EdnsInfo}
    (h : EdnsOf (R1 ++ rc :: R2) s i) (hn : isOptPiece rc = false) :
    EdnsOf (R1 ++ R2) s (i.moved (fun x => if s + R1.flatten.length < x then x - rc.length else x)) := by
  have := h.splice hn (mid := []) (fun r hr => nomatch hr)
  simpa only [List.flatten_nil, List.length_nil, Nat.add_zero, List.append_nil] using this

theorem isOptPiece_shape (owner : List (List UInt8)) (f8 rest : Bytes) (hgo : GoodLabels owner) (hf8 : f8.length = 8) :
    isOptPiece ((encLabels owner ++ [0]) ++ f8 ++ rest) = true ↔ owner = [] ∧ get16 f8 0 = 41 := by
  unfold isOptPiece
  rw [List.append_assoc, Bool.and_eq_true, beq_iff_eq, beq_iff_eq, ← enc_root_iff owner hgo.1 (f8 ++ rest)]
  -- with the root as owner the type is read at offset 1
  have : owner = [] → get16 ((encLabels owner ++ [0]) ++ (f8 ++ rest)) 1 = get16 f8 0 := fun ho => by
    subst ho
    exact (get16_append_right [0] (f8 ++ rest) 0).trans (get16_append_left (by omega))
  exact ⟨fun h => ⟨h.1, this h.1 ▸ h.2⟩, fun h => ⟨h.1, (this h.1).trans h.2⟩⟩

theorem noopt_of_type (owner : List (List UInt8)) (f8 rest : Bytes) (hgo : GoodLabels owner) (hf8 : f8.length = 8) (h41 : get16 f8 0 ≠ 41) :
    isOptPiece ((encLabels owner ++ [0]) ++ f8 ++ rest) = false := by
  cases h : isOptPiece ((encLabels owner ++ [0]) ++ f8 ++ rest) with
  | false => rfl
  | true => exact absurd ((isOptPiece_shape owner f8 rest hgo hf8).1 h).2 h41

theorem noopt_of_pieceOK {sec : Section} {rc : Bytes} {b : Bool} (h : PieceOK sec rc b b) : isOptPiece rc = false := by
  obtain ⟨owner, f8, rd, hrc, hgo, hf8, _, _, h41⟩ := piece_shape h
  by_cases ht : get16 f8 0 = 41
  · obtain ⟨_, h1, h2⟩ := h41 ht
    rw [h1] at h2; cases h2
  · rw [hrc]
    have := noopt_of_type owner f8 (put16 rd.length ++ rd) hgo hf8 ht
    simpa using this

theorem noopt_of_pieces_aux {sec : Section} {R : List Bytes} {ob oe : Bool} (h : Pieces sec R ob oe) :
    oe = ob → ∀ r ∈ R, isOptPiece r = false := by
  induction h with
  | nil => intro _ r hr; simp at hr
  | @cons rc ps ob om oe hp hrest ih =>
    intro he r hr
    rcases pieceOK_flags hp with ⟨hf, ht, _⟩ | ⟨e, _⟩
    · subst hf; subst ht
      have := (pieces_any_flag hrest (Or.inr rfl)).1
      rw [he] at this; cases this
    · subst e
      simp only [List.mem_cons] at hr
      rcases hr with rfl | hr
      · exact noopt_of_pieceOK hp
      · exact ih he r hr

theorem noopt_of_pieces {sec : Section} {R : List Bytes} {b : Bool} (h : Pieces sec R b b) : ∀ r ∈ R, isOptPiece r = false :=
  noopt_of_pieces_aux h rfl

theorem noopt_after_opt {sec : Section} {R : List Bytes} {oe : Bool} (h : Pieces sec R true oe) : ∀ r ∈ R, isOptPiece r = false := by
  obtain ⟨e, hall⟩ := pieces_any_flag h (Or.inr rfl)
  exact noopt_of_pieces (hall true)

theorem moved_congr {i : EdnsInfo} {f g : Nat → Nat} (h : ∀ x, i.start = some x → f x = g x) : i.moved f = i.moved g := by
  unfold EdnsInfo.moved
  congr 1
  cases hs : i.start with
  | none => rfl
  | some x => simp [h x hs]

theorem moved_id {i : EdnsInfo} {f : Nat → Nat} (h : ∀ x, i.start = some x → f x = x) : i.moved f = i := by
  obtain ⟨s, _, _, _, _, _⟩ := i
  cases s with
  | none => rfl
  | some x => exact congrArg (EdnsInfo.mk · _ _ _ _ _) (congrArg some (h x rfl))

end Dns
