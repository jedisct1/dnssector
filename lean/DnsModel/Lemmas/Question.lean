/-
  A name written anywhere is a name of the policy: `Labels.okLabels`, `NameAt.okLabels`, `validName_at`,
  `validName_of_enc` (used by Canon, Plain, CaseFold, Dict); and `raw_name_len` on an accepted name, for C04.
-/
import DnsModel.Lemmas.Decode
namespace Dns
open Res

theorem byteAt_drop (p : Bytes) (k i : Nat) : byteAt (p.drop k) i = byteAt p (k + i) := by
  simp only [byteAt, List.getElem?_drop]

theorem rawLen_labels {p : Bytes} {bar off stop : Nat} {ls : List (List UInt8)} (hl : Labels p bar off ls stop)
    (fuel : Nat) :
    rawNameLenLoop (p.drop off) (fuel + ls.length) 0 = rawNameLenLoop (p.drop off) fuel (stop - off) := by
  have := hl.iterate (fun fuel o (_ : Unit) => rawNameLenLoop (p.drop off) fuel (o - off)) (fun _ _ => ())
    (fun fuel o len _ ho _ hby _ h63 _ => by
      have hnz : (len == 0) = false := beq_false_of_ne (by omega)
      have hby' : byteAt (p.drop off) (o - off) = some len := by
        rw [byteAt_drop, Nat.add_sub_cancel' ho]; exact hby
      rw [rawNameLenLoop]
      simp only [idx_of_byteAt hby', bind_ok, isPtr_false_of_le h63, Bool.false_eq_true, if_false, hnz,
        show o - off + len + 1 = o + len + 1 - off by omega]) fuel ()
  rwa [Nat.sub_self] at this

theorem rawNameLen_nameAt {p : Bytes} {bar low off refs e : Nat} {ls : List (List UInt8)}
    (hn : NameAt p bar low off refs ls e) (hoff : off ≤ p.length) : rawNameLen (p.drop off) = .ok (e - off) := by
  obtain ⟨ls0, stop, b, hl, hb, h⟩ := hn.head
  have hlen := hl.length_le
  have hst := byteAt_lt_length hb
  obtain ⟨n, hn⟩ : ∃ n, (p.drop off).length + 1 = n + 1 + ls0.length :=
    ⟨p.length - off - ls0.length, by rw [List.length_drop]; omega⟩
  have hby : byteAt (p.drop off) (stop - off) = some b := by
    rw [byteAt_drop, Nat.add_sub_cancel' hl.le]; exact hb
  rw [rawNameLen, hn, rawLen_labels hl, rawNameLenLoop]
  rcases h with ⟨rfl, rfl⟩ | ⟨h192, rfl⟩
  · simp only [idx_of_byteAt hby, bind_ok, beq_self_eq_true, if_true, pure_eq]
    congr 1; omega
  · have hnz0 : (b == 0) = false := beq_false_of_ne (by omega)
    simp only [idx_of_byteAt hby, bind_ok, hnz0, Bool.false_eq_true, if_false, (isPtr_iff' b (byteAt_lt hb)).2 h192,
      if_true, pure_eq]
    congr 1; omega

theorem Labels.okLabels {p : Bytes} {bar off stop : Nat} {ls : List (List UInt8)} (h : Labels p bar off ls stop) :
    ∀ l ∈ ls, okLabel l := by
  induction h with
  | nil => intro l hl; simp at hl
  | cons _ _ h3 h4 h5 _ ih =>
    intro l hl
    simp at hl
    rcases hl with rfl | hl
    · unfold okLabel; rw [lab_length h5]; exact ⟨h3, h4⟩
    · exact ih l hl

theorem NameAt.okLabels {p : Bytes} {bar low off refs e : Nat} {ls : List (List UInt8)}
    (h : NameAt p bar low off refs ls e) : ∀ l ∈ ls, okLabel l := by
  induction h with
  | root hl _ _ => exact hl.okLabels
  | ptr hl _ _ _ _ _ _ _ _ ih =>
    intro l hm
    rcases List.mem_append.1 hm with h | h
    · exact hl.okLabels l h
    · exact ih l h

theorem validName_at {u A B : Bytes} {ls : List (List UInt8)} (h : u = A ++ (encLabels ls ++ [0]) ++ B)
    (hok : ∀ l ∈ ls, okLabel l) (hw : wireLen ls ≤ 255) (hg : ∀ l ∈ ls, goodChars l = true) :
    ValidName u A.length ls (A.length + labSum ls + 1) := by
  have e : u = A ++ encLabels ls ++ ((0 : UInt8) :: B) := by simp only [h, List.append_assoc, List.singleton_append]
  have hlen : u.length = A.length + labSum ls + (B.length + 1) := by
    rw [e, List.length_append, List.length_append, encLabels_length, List.length_cons]
  have hl := Labels.of_encLabels A ls ((0 : UInt8) :: B) u.length hok (by omega)
  rw [← e] at hl
  refine ⟨by omega, NameAt.root hl (by omega) ?_, hw, hg⟩
  rw [e, ← encLabels_length, ← List.length_append, byteAt_append_right0, byteAt_cons_zero]
  rfl

theorem validName_of_enc {ls : List (List UInt8)} (hok : ∀ l ∈ ls, okLabel l) (hw : wireLen ls ≤ 255)
    (hg : ∀ l ∈ ls, goodChars l = true) : ValidName (encLabels ls ++ [0]) 0 ls (labSum ls + 1) := by
  have := validName_at (A := []) (B := []) (List.append_nil _).symm hok hw hg
  rwa [List.length_nil, Nat.zero_add] at this

end Dns
