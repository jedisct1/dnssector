/-
  `Renamer::replace_raw` on pointer-free wire names: it replaces a suffix (or the
  whole name) that equals the source up to case, on a label boundary, and nothing else.
-/
import DnsModel.Renamer
import DnsModel.Lemmas.Plain
import DnsModel.Lemmas.CaseFold
namespace Dns
open Res

/-- where the first loop of `replace_raw` stops -/
def findPos (offset : Nat) : List (List UInt8) → Nat → Nat
  | [], pos => pos
  | x :: suf, pos => if pos = offset then pos else findPos offset suf (pos + x.length + 1)

theorem findLoop_spec (offset : Nat) (suf : List (List UInt8)) :
    ∀ (pre : List (List UInt8)) (fuel : Nat), (∀ l ∈ pre ++ suf, okLabel l) → fuel > suf.length →
      replaceFindLoop (encLabels (pre ++ suf) ++ [0]) offset fuel (labSum pre) = .ok (findPos offset suf (labSum pre)) := by
  induction suf with
  | nil =>
    intro pre fuel _ hf
    obtain ⟨n, rfl⟩ := Nat.exists_eq_succ_of_ne_zero (Nat.ne_of_gt hf)
    unfold replaceFindLoop
    simp only [nm_idx_nil, bind_ok, beq_self_eq_true, if_true, pure_eq, findPos]
  | cons x suf ih =>
    intro pre fuel hok hf
    obtain ⟨n, rfl⟩ := Nat.exists_eq_succ_of_ne_zero (Nat.ne_of_gt (Nat.lt_of_le_of_lt (Nat.zero_le _) hf))
    have hx : okLabel x := hok x (by simp)
    unfold replaceFindLoop
    simp only [nm_idx_cons pre x suf hx, bind_ok, beq_false_of_ne (Nat.ne_of_gt hx.1), Bool.false_eq_true, if_false,
      findPos, pure_eq]
    by_cases ho : labSum pre = offset
    · rw [if_pos (beq_iff_eq.2 ho), if_pos ho]
    · rw [if_neg (mt beq_iff_eq.1 ho), if_neg ho, ← labSum_snoc, List.append_cons pre]
      exact ih _ n (List.append_cons pre x suf ▸ hok) (Nat.lt_of_succ_lt_succ hf)

theorem findPos_cases (offset : Nat) (ls : List (List UInt8)) (base : Nat) :
    (findPos offset ls base = base + labSum ls ∧ ∀ a b, ls = a ++ b → b ≠ [] → base + labSum a ≠ offset) ∨
    (∃ a b, ls = a ++ b ∧ b ≠ [] ∧ base + labSum a = offset ∧ findPos offset ls base = offset) := by
  induction ls generalizing base with
  | nil =>
    left
    refine ⟨by simp [findPos, labSum], ?_⟩
    intro a b h hb
    have := List.append_eq_nil_iff.1 h.symm
    exact absurd this.2 hb
  | cons x ls ih =>
    by_cases hbo : base = offset
    · right
      exact ⟨[], x :: ls, rfl, by simp, by simp [labSum, hbo], by simp [findPos, hbo]⟩
    · simp only [findPos, hbo, if_false]
      rcases ih (base + x.length + 1) with ⟨h1, h2⟩ | ⟨a, b, h1, h2, h3, h4⟩
      · left
        refine ⟨by rw [h1, labSum_cons]; omega, ?_⟩
        intro a b hab hb
        cases a with
        | nil => simpa [labSum] using hbo
        | cons y a =>
          simp at hab
          obtain ⟨rfl, hab⟩ := hab
          have := h2 a b hab hb
          rw [labSum_cons]; omega
      · right
        refine ⟨x :: a, b, by simp [h1], h2, by rw [labSum_cons]; omega, h4⟩

theorem findPos_hit (a b : List (List UInt8)) (hb : b ≠ []) (base : Nat) :
    findPos (base + labSum a) (a ++ b) base = base + labSum a := by
  rcases findPos_cases (base + labSum a) (a ++ b) base with ⟨_, h⟩ | ⟨_, _, _, _, _, h⟩
  · exact absurd rfl (h a b rfl hb)
  · exact h

theorem labelEq_spec (name source : Bytes) (i offset : Nat) (hoi : offset ≤ i) :
    ∀ (xs ys : Bytes) (j : Nat), xs.length = ys.length →
      (name.drop (i + j)).take xs.length = xs → (source.drop (i + j - offset)).take ys.length = ys →
      labelEqLoop name source i offset xs.length j = .ok (lowerBytes xs == lowerBytes ys) := by
  intro xs
  induction xs with
  | nil =>
    intro ys j hl _ _
    cases ys with
    | nil => rfl
    | cons _ _ => cases hl
  | cons a xs ih =>
    intro ys j hl hx hy
    cases ys with
    | nil => cases hl
    | cons b ys =>
      obtain ⟨ha, hx'⟩ := window_cons hx
      obtain ⟨hb, hy'⟩ := window_cons hy
      rw [← Nat.sub_add_comm (Nat.le_trans hoi (Nat.le_add_right i j))] at hy'
      rw [List.length_cons]
      unfold labelEqLoop
      simp only [ha, sub_ok (Nat.le_trans hoi (Nat.le_add_right i j)), hb, bind_ok, UInt8.ofNat_toNat,
        ih ys (j + 1) (Nat.succ.inj hl) hx' hy', eqIgnoreCase, lowerBytes, List.map_cons, List.cons_beq_cons]
      cases toLowerB a == toLowerB b <;> rfl

/-- the label-by-label comparison of the second loop -/
def cmpLs : List (List UInt8) → List (List UInt8) → Bool
  | [], _ => true
  | _ :: _, [] => false
  | x :: suf, y :: srem =>
    if x.length != y.length then false else if lowerBytes x != lowerBytes y then false else cmpLs suf srem

/-- the bytes of the label `x` in the name, as `labelEqLoop` addresses them -/
theorem nm_label_window (pre : List (List UInt8)) (x : List UInt8) (suf : List (List UInt8)) :
    ((encLabels (pre ++ x :: suf) ++ [0]).drop (labSum pre + 1 + 0)).take x.length = x := by
  rw [Nat.add_zero, ← List.drop_drop, nm_drop pre (x :: suf)]
  show ((UInt8.ofNat x.length :: (x ++ encLabels suf) ++ [0]).drop 1).take x.length = x
  rw [List.cons_append, List.drop_succ_cons, List.drop_zero, List.append_assoc]
  exact List.take_left' rfl

/-- `labSum pre = offset + labSum spre`: the loop reads the name `offset` bytes ahead of the source
(`k = i - offset`), `pre` and `spre` being the labels already compared -/
theorem cmpLoop_spec (offset : Nat) (suf : List (List UInt8)) :
    ∀ (pre spre srem : List (List UInt8)) (fuel : Nat), (∀ l ∈ pre ++ suf, okLabel l) → (∀ l ∈ spre ++ srem, okLabel l) →
      fuel > suf.length → labSum pre = offset + labSum spre →
      replaceCmpLoop (encLabels (pre ++ suf) ++ [0]) (encLabels (spre ++ srem) ++ [0]) offset fuel (labSum pre) =
        .ok (cmpLs suf srem) := by
  induction suf with
  | nil =>
    intro pre spre srem fuel _ _ hf _
    obtain ⟨n, rfl⟩ := Nat.exists_eq_succ_of_ne_zero (Nat.ne_of_gt hf)
    unfold replaceCmpLoop
    simp only [nm_idx_nil, bind_ok, beq_self_eq_true, if_true, pure_eq, cmpLs]
  | cons x suf ih =>
    intro pre spre srem fuel hok hoks hf hoff
    obtain ⟨n, rfl⟩ := Nat.exists_eq_succ_of_ne_zero (Nat.ne_of_gt (Nat.lt_of_le_of_lt (Nat.zero_le _) hf))
    have hx : okLabel x := hok x (by simp)
    unfold replaceCmpLoop
    simp only [nm_idx_cons pre x suf hx, bind_ok, beq_false_of_ne (Nat.ne_of_gt hx.1), Bool.false_eq_true, if_false,
      sub_eq hoff]
    cases srem with
    | nil =>
      simp only [nm_idx_nil, bind_ok, cmpLs, bne_iff_ne.2 (Nat.ne_of_gt hx.1), if_true, pure_eq]
    | cons y srem =>
      simp only [nm_idx_cons spre y srem (hoks y (by simp)), bind_ok, cmpLs]
      by_cases hl : x.length = y.length
      · have hlab := labelEq_spec (encLabels (pre ++ x :: suf) ++ [0]) (encLabels (spre ++ y :: srem) ++ [0])
          (labSum pre + 1) offset (by omega) x y 0 hl (nm_label_window pre x suf)
          (by rw [show labSum pre + 1 + 0 - offset = labSum spre + 1 + 0 by omega]; exact nm_label_window spre y srem)
        have hne : (x.length != y.length) = false := by rw [hl]; exact bne_self_eq_false _
        simp only [hne, Bool.false_eq_true, if_false, hlab, bind_ok, pure_eq]
        by_cases hlow : (lowerBytes x == lowerBytes y) = true
        · simp only [bne, hlow, Bool.not_true, Bool.false_eq_true, if_false]
          rw [Nat.add_right_comm, ← labSum_snoc, List.append_cons pre, List.append_cons spre]
          exact ih _ _ srem n (List.append_cons pre x suf ▸ hok) (List.append_cons spre y srem ▸ hoks)
            (Nat.lt_of_succ_lt_succ hf) (by rw [labSum_snoc, labSum_snoc]; omega)
        · simp only [bne, Bool.eq_false_iff.2 hlow, Bool.not_false, if_true]
      · simp only [bne_iff_ne.2 hl, if_true, pure_eq]

theorem cmpLs_of_lsCi {b src : List (List UInt8)} (h : lsCi b src) : cmpLs b src = true := by
  induction b generalizing src with
  | nil => simp [cmpLs]
  | cons x b ih =>
    cases src with
    | nil => simp [lsCi] at h
    | cons y src =>
      simp [lsCi] at h
      have hl : x.length = y.length := by
        have := congrArg List.length h.1
        simpa [lowerBytes_length] using this
      simp only [cmpLs, hl, bne_self_eq_false, Bool.false_eq_true, if_false, h.1]
      exact ih (by simpa [lsCi] using h.2)

theorem cmpLs_sound {b src : List (List UInt8)} (h : cmpLs b src = true) (hs : labSum b = labSum src) : lsCi b src := by
  induction b generalizing src with
  | nil =>
    cases src with
    | nil => rfl
    | cons y src => cases labSum_eq_zero hs.symm
  | cons x b ih =>
    cases src with
    | nil => simp [cmpLs] at h
    | cons y src =>
      simp only [cmpLs] at h
      by_cases hl : x.length = y.length
      · simp only [hl, bne_self_eq_false, Bool.false_eq_true, if_false] at h
        by_cases hlow : lowerBytes x = lowerBytes y
        · simp only [hlow, bne_self_eq_false, Bool.false_eq_true, if_false] at h
          rw [labSum_cons, labSum_cons] at hs
          have := ih h (by omega)
          unfold lsCi at this ⊢
          simp [hlow, this]
        · have : (lowerBytes x != lowerBytes y) = true := by simp [hlow]
          simp [this] at h
      · have : (x.length != y.length) = true := by simp [hl]
        simp [this] at h

/-- what renaming does to the labels of one name -/
inductive Renamed (src tgt : List (List UInt8)) (sfx : Bool) : List (List UInt8) → List (List UInt8) → Prop
  | hit (a b : List (List UInt8)) : lsCi b src → (sfx = false → a = []) → Renamed src tgt sfx (a ++ b) (a ++ tgt)
  | miss (ls : List (List UInt8)) : (¬ ∃ a b, ls = a ++ b ∧ lsCi b src ∧ (sfx = false → a = [])) → Renamed src tgt sfx ls ls

theorem take_enc (a b : List (List UInt8)) (t : Bytes) : (encLabels (a ++ b) ++ t).take (labSum a) = encLabels a := by
  rw [encLabels_append, List.append_assoc, ← encLabels_length a, List.take_append_length]

theorem nm_idx_zero {ls : List (List UInt8)} (hne : ls ≠ []) (hok : ∀ l ∈ ls, okLabel l) :
    ∃ n, idx (encLabels ls ++ [0]) 0 = .ok n ∧ (n == 0) = false := by
  obtain ⟨y, r, rfl⟩ := List.exists_cons_of_ne_nil hne
  have hy := hok y (List.mem_cons_self ..)
  exact ⟨y.length, nm_idx_cons [] y r hy, beq_false_of_ne (Nat.ne_of_gt hy.1)⟩

theorem replaceRaw_enc (ls src tgt : List (List UInt8)) (sfx : Bool) (hok : ∀ l ∈ ls, okLabel l)
    (hoks : ∀ l ∈ src, okLabel l) (hokt : ∀ l ∈ tgt, okLabel l) (hsrc : src ≠ []) (htgt : tgt ≠ []) :
    replaceRaw (encLabels ls ++ [0]) (encLabels tgt ++ [0]) (encLabels src ++ [0]) sfx =
      (if labSum ls + 1 < labSum src + 1 || (sfx == false && labSum ls + 1 != labSum src + 1) then .ok none
       else do
        let off := labSum ls - labSum src
        let i := findPos off ls 0
        if i ≥ labSum ls + 1 then .ok none else
        let b ← idx (encLabels ls ++ [0]) i
        if b == 0 then .ok none else do
        failIf (i != off) .invalidName
        let all ← replaceCmpLoop (encLabels ls ++ [0]) (encLabels src ++ [0]) off (labSum ls + 1 + 1) i
        if !all then .ok none else do
        failIf (255 < off + (labSum tgt + 1)) .invalidName
        pure (some ((encLabels ls ++ [0]).take off ++ (encLabels tgt ++ [0])))) := by
  obtain ⟨s0, hs0, hs0n⟩ := nm_idx_zero hsrc hoks
  obtain ⟨t0, ht0, ht0n⟩ := nm_idx_zero htgt hokt
  have hfind : replaceFindLoop (encLabels ls ++ [0]) (labSum ls - labSum src) (labSum ls + 1 + 1) 0 =
      .ok (findPos (labSum ls - labSum src) ls 0) :=
    findLoop_spec _ ls [] _ hok (Nat.lt_succ_of_le (Nat.le_of_succ_le (length_lt_wireLen ls)))
  have c1 : (decide (labSum src + 1 ≤ 0) || decide (labSum tgt + 1 ≤ 0)) = false := by simp
  unfold replaceRaw
  simp only [encLen_eq, failIf, c1, Bool.false_eq_true, if_false, bind_ok, hs0, ht0, hs0n, ht0n, Bool.or_self,
    Nat.add_sub_add_right, hfind, pure_eq, Nat.zero_lt_succ, gt_iff_lt, decide_true, Bool.and_true,
    DNS_MAX_HOSTNAME_LEN]

theorem replaceRaw_spec (ls src tgt : List (List UInt8)) (sfx : Bool) (hok : ∀ l ∈ ls, okLabel l)
    (hoks : ∀ l ∈ src, okLabel l) (hokt : ∀ l ∈ tgt, okLabel l) (hsrc : src ≠ []) (htgt : tgt ≠ []) :
    (∃ a b, ls = a ++ b ∧ lsCi b src ∧ (sfx = false → a = []) ∧
      replaceRaw (encLabels ls ++ [0]) (encLabels tgt ++ [0]) (encLabels src ++ [0]) sfx =
        if labSum a + (labSum tgt + 1) > 255 then .err .invalidName else .ok (some (encLabels (a ++ tgt) ++ [0]))) ∨
    ((¬ ∃ a b, ls = a ++ b ∧ lsCi b src ∧ (sfx = false → a = [])) ∧
      replaceRaw (encLabels ls ++ [0]) (encLabels tgt ++ [0]) (encLabels src ++ [0]) sfx = .ok none) := by
  have hfuel : labSum ls + 1 + 1 > ls.length := Nat.lt_succ_of_le (Nat.le_of_succ_le (length_lt_wireLen ls))
  generalize hX : replaceRaw (encLabels ls ++ [0]) (encLabels tgt ++ [0]) (encLabels src ++ [0]) sfx = X
  rw [replaceRaw_enc ls src tgt sfx hok hoks hokt hsrc htgt] at hX
  simp only [failIf, pure_eq] at hX
  -- the call when the source is as long as the suffix `b` of the name: the label-wise comparison decides
  have hbd : ∀ a b, ls = a ++ b → b ≠ [] → labSum b = labSum src → (sfx = false → a = []) →
      X = if cmpLs b src then
            (if labSum a + (labSum tgt + 1) > 255 then .err .invalidName else .ok (some (encLabels (a ++ tgt) ++ [0])))
          else .ok none := by
    intro a b hab hb hbs hsf
    subst hab
    have hls : labSum (a ++ b) = labSum a + labSum src := by rw [labSum_append, hbs]
    have c0 : (decide (labSum (a ++ b) + 1 < labSum src + 1) ||
        (sfx == false && labSum (a ++ b) + 1 != labSum src + 1)) = false := by
      cases sfx with
      | true => simp; omega
      | false =>
        obtain rfl := hsf rfl
        simp [hbs]
    have hfp : findPos (labSum a) (a ++ b) 0 = labSum a := by
      have := findPos_hit a b hb 0
      rwa [Nat.zero_add] at this
    obtain ⟨bx, br, rfl⟩ := List.exists_cons_of_ne_nil hb
    have hbx : okLabel bx := hok bx (by simp)
    have hcmp : replaceCmpLoop (encLabels (a ++ bx :: br) ++ [0]) (encLabels src ++ [0]) (labSum a)
        (labSum (a ++ bx :: br) + 1 + 1) (labSum a) = .ok (cmpLs (bx :: br) src) :=
      cmpLoop_spec (labSum a) (bx :: br) a [] src _ hok hoks (Nat.lt_of_le_of_lt (by simp) hfuel) rfl
    rw [if_neg (by rw [c0]; decide), show labSum (a ++ bx :: br) - labSum src = labSum a by omega,
      hfp, if_neg (by omega)] at hX
    simp only [nm_idx_cons a bx br hbx, bind_ok, beq_false_of_ne (Nat.ne_of_gt hbx.1), Bool.false_eq_true, if_false,
      bne_self_eq_false, hcmp] at hX
    subst hX
    cases cmpLs (bx :: br) src with
    | false => rfl
    | true =>
      simp only [Bool.not_true, Bool.false_eq_true, if_false, if_true, take_enc, gt_iff_lt]
      by_cases hbig : 255 < labSum a + (labSum tgt + 1)
      · simp only [hbig, decide_true, if_true, bind_err]
      · simp only [hbig, decide_false, Bool.false_eq_true, if_false, bind_ok, encLabels_append, List.append_assoc]
  by_cases hmatch : ∃ a b, ls = a ++ b ∧ lsCi b src ∧ (sfx = false → a = [])
  · left
    obtain ⟨a, b, hab, hci, hsf⟩ := hmatch
    have hb : b ≠ [] := by
      rintro rfl
      exact hsrc (List.map_eq_nil_iff.1 hci.symm)
    exact ⟨a, b, hab, hci, hsf, by rw [hbd a b hab hb hci.labSum hsf, cmpLs_of_lsCi hci, if_pos rfl]⟩
  · right
    refine ⟨hmatch, ?_⟩
    by_cases c0 : (decide (labSum ls + 1 < labSum src + 1) || (sfx == false && labSum ls + 1 != labSum src + 1)) = true
    · rw [if_pos c0] at hX
      exact hX.symm
    · rcases findPos_cases (labSum ls - labSum src) ls 0 with ⟨hroot, _⟩ | ⟨a, b, hab, hb, hoff, _⟩
      · rw [Nat.zero_add] at hroot
        have hidx : idx (encLabels ls ++ [0]) (labSum ls) = .ok 0 := by
          have := nm_idx_nil ls
          rwa [List.append_nil] at this
        rw [if_neg c0, hroot, if_neg (Nat.not_succ_le_self _)] at hX
        simp only [hidx, bind_ok, beq_self_eq_true, if_true] at hX
        exact hX.symm
      · rw [Nat.zero_add] at hoff
        have hls : labSum ls = labSum a + labSum b := by rw [hab, labSum_append]
        simp only [Bool.or_eq_true, Bool.and_eq_true, decide_eq_true_eq, beq_iff_eq, bne_iff_ne, not_or, not_and,
          Nat.not_lt, Nat.add_le_add_iff_right, Decidable.not_not, Nat.add_right_cancel_iff] at c0
        have hbs : labSum b = labSum src := by omega
        have hsf : sfx = false → a = [] := fun h => labSum_eq_zero (by have := c0.2 h; omega)
        rw [hbd a b hab hb hbs hsf]
        cases hc : cmpLs b src with
        | false => rfl
        | true => exact absurd ⟨a, b, hab, cmpLs_sound hc hbs, hsf⟩ hmatch

theorem replaceRaw_renamed {ls src tgt : List (List UInt8)} (sfx : Bool) (hok : ∀ l ∈ ls, okLabel l) (hw : wireLen ls ≤ 255)
    (hoks : ∀ l ∈ src, okLabel l) (hokt : ∀ l ∈ tgt, okLabel l) (hsrc : src ≠ []) (htgt : tgt ≠ []) :
    ∃ ls', Renamed src tgt sfx ls ls' ∧
      ((wireLen ls' ≤ 255 ∧ ∃ r, replaceRaw (encLabels ls ++ [0]) (encLabels tgt ++ [0]) (encLabels src ++ [0]) sfx = .ok r ∧
          r.getD (encLabels ls ++ [0]) = encLabels ls' ++ [0]) ∨
       (255 < wireLen ls' ∧
          replaceRaw (encLabels ls ++ [0]) (encLabels tgt ++ [0]) (encLabels src ++ [0]) sfx = .err .invalidName)) := by
  rcases replaceRaw_spec ls src tgt sfx hok hoks hokt hsrc htgt with ⟨a, b, rfl, hci, hsf, hrep⟩ | ⟨hno, hrep⟩
  · refine ⟨a ++ tgt, Renamed.hit a b hci hsf, ?_⟩
    rw [wireLen_eq, labSum_append, Nat.add_assoc]
    by_cases hbig : labSum a + (labSum tgt + 1) > 255
    · exact Or.inr ⟨hbig, by rw [hrep, if_pos hbig]⟩
    · exact Or.inl ⟨Nat.le_of_not_lt hbig, _, by rw [hrep, if_neg hbig], rfl⟩
  · exact ⟨ls, Renamed.miss ls hno, Or.inl ⟨hw, none, hrep, rfl⟩⟩

end Dns
