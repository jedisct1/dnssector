/-
  A packet written section by section (the header of an accepted packet, a question, three runs of records) is
  accepted again, and its layout is the one written.
-/
import DnsModel.Lemmas.Layout
import DnsModel.Lemmas.CanonRun
namespace Dns
open Res

/-- `c` is the header of `u`, the question name `qem` with the four bytes after the name of `u`, and the bytes `ema`,
`emn`, `emr` of three sections holding runs of records `la`, `ln`, `lr`, as many as in the layout `L` of `u` and with
its OPT flags -/
theorem layout_rebuilt {u c qem ema emn emr : Bytes} (hwf : WF u) (L : C03.Layout u)
    (hc : c = u.take 12 ++ (qem ++ (u.drop L.qe).take 4) ++ ema ++ emn ++ emr)
    {qls : List (List UInt8)} (hvq : ValidName c 12 qls (12 + qem.length)) {la ln lr : List RecPos}
    (ha : RRsL c .answer la (u.take 12 ++ (qem ++ (u.drop L.qe).take 4)).length false
      (u.take 12 ++ (qem ++ (u.drop L.qe).take 4) ++ ema).length L.o2)
    (hn : RRsL c .nameServers ln (u.take 12 ++ (qem ++ (u.drop L.qe).take 4) ++ ema).length L.o2
      (u.take 12 ++ (qem ++ (u.drop L.qe).take 4) ++ ema ++ emn).length L.o3)
    (hr : RRsL c .additional lr (u.take 12 ++ (qem ++ (u.drop L.qe).take 4) ++ ema ++ emn).length L.o3 c.length L.o4)
    (na : la.length = L.answers.length) (nn : ln.length = L.authority.length) (nr : lr.length = L.additional.length) :
    WF c ∧ c.take 12 = u.take 12 ∧
      ∃ L' : C03.Layout c, L'.qe = 12 + qem.length ∧ (c.drop L'.qe).take 4 = (u.drop L.qe).take 4 ∧
        L'.answers = la ∧ L'.authority = ln ∧ L'.additional = lr := by
  obtain ⟨h12, hqd, qe, hne, _, hcl, hqr, _⟩ := hwf
  obtain rfl : qe = L.qe := nameEnds_functional hne L.hq.1
  have hH : (u.take 12).length = 12 := List.length_take_of_le h12
  have hq4 : ((u.drop L.qe).take 4).length = 4 := length_take_drop L.hq.2
  have hP : (u.take 12 ++ (qem ++ (u.drop L.qe).take 4)).length = 12 + qem.length + 4 := by
    rw [List.length_append, List.length_append, hH, hq4, Nat.add_assoc]
  have hQ : (u.take 12 ++ qem).length = 12 + qem.length := by rw [List.length_append, hH]
  rw [hP] at ha
  have hagH : Agree u c 0 0 12 :=
    agree_of_eq (A := []) (B := qem ++ (u.drop L.qe).take 4 ++ ema ++ emn ++ emr)
      (by rw [hc]; simp only [List.nil_append, List.drop_zero, List.append_assoc]) h12
  have hg : ∀ i, i + 2 ≤ 12 → get16 c i = get16 u i := fun i hi => by simpa only [Nat.zero_add] using hagH.get16 hi
  have hagQ : Agree u c L.qe (12 + qem.length) 4 :=
    hQ ▸ agree_of_eq (A := u.take 12 ++ qem) (B := ema ++ emn ++ emr) (by rw [hc]; simp only [List.append_assoc]) L.hq.2
  have hwin : (c.drop (12 + qem.length)).take 4 = (u.drop L.qe).take 4 := by
    have := window_eq (u := c) (A := u.take 12 ++ qem) (w := (u.drop L.qe).take 4) (B := ema ++ emn ++ emr)
      (by rw [hc]; simp only [List.append_assoc])
    rwa [hQ, hq4] at this
  have c6 : la.length = get16 c 6 := by rw [na, L.na, hg 6 (by omega)]
  have c8 : ln.length = get16 c 8 := by rw [nn, L.nn, hg 8 (by omega)]
  have c10 : lr.length = get16 c 10 := by rw [nr, L.nr, hg 10 (by omega)]
  have hq4c : 12 + qem.length + 4 ≤ c.length := Nat.le_trans ha.bounds.1 (Nat.le_trans hn.bounds.1 hr.bounds.1)
  refine ⟨⟨Nat.le_trans (by omega) hq4c, (hg 4 (by omega)).trans hqd, 12 + qem.length, ⟨qls, hvq⟩, hq4c,
      (hagQ.get16 (i := 2) (by omega)).trans hcl, ?_, _, L.o2, _, L.o3, L.o4, c6 ▸ ha.to_RRs, c8 ▸ hn.to_RRs, c10 ▸ hr.to_RRs⟩,
    ?_, ⟨12 + qem.length, la, ln, lr, _, _, _, _, _, ⟨⟨qls, hvq⟩, hq4c⟩, ha, hn, hr, c6, c8, c10⟩, rfl, hwin, rfl, rfl, rfl⟩
  · rw [hg 2 (by omega), hg 6 (by omega), hg 8 (by omega)]
    exact hqr
  · rw [hc]
    simp only [List.append_assoc]
    rw [List.take_append_of_le_length (Nat.le_of_eq hH.symm), List.take_of_length_le (Nat.le_of_eq hH)]

end Dns
