/-
  The builders of record synthesis (`RR::new` and the per-type builders) in terms of
  the host-name conversion, and the data parser `rdataP` as one run of token parsers per record type.
-/
import DnsModel.Lemmas.NameText
namespace Dns
open Res

theorem rrNew_iff {h : RRHeader} {rd rr : Bytes} : rrNew h rd = .ok rr ↔
    ∃ raw, rawNameFromStr h.name none = .ok raw ∧ rd.length ≤ 65535 ∧
      rr = raw ++ (put16 h.rrType ++ put16 1 ++ put32 h.ttl) ++ put16 rd.length ++ rd := by
  unfold rrNew rawNameFromStr failIf
  by_cases hl : rd.length > 0xffff
  · simp only [hl, decide_true, if_true, bind_err]
    exact ⟨fun h => (nomatch h), fun ⟨_, _, h, _⟩ => absurd hl (by omega)⟩
  · simp only [hl, decide_false, Bool.false_eq_true, if_false, bind_ok, bind_eq_ok, pure_eq, ok.injEq, CLASS_IN]
    exact exists_congr fun raw => and_congr_right fun _ =>
      ⟨fun h => ⟨by omega, by rw [← h]; simp only [List.append_assoc]⟩, fun h => by rw [h.2]; simp only [List.append_assoc]⟩

theorem buildTxt_eq (h : RRHeader) (t : Bytes) :
    buildTxt h t = if t.length > 3825 then .err .invalidPacket else rrNew h (chunks255 (t.length + 1) t) := by
  unfold buildTxt failIf
  consts
  by_cases hl : t.length > 3825 <;> simp [hl]

theorem buildMx_eq (h : RRHeader) (pref : Nat) (n : Bytes) :
    buildMx h pref n = rawNameFromStr n none >>= fun raw => rrNew h (put16 pref ++ raw) := by
  unfold buildMx
  simp only [copyRaw_append, Res.bind_assoc, bind_ok]

theorem buildSoa_eq (h : RRHeader) (ns ct : Bytes) (nums : List Nat) :
    buildSoa h ns ct nums = rawNameFromStr ns none >>= fun r1 => rawNameFromStr ct none >>= fun r2 =>
      rrNew h (r1 ++ r2 ++ (nums.map put32).flatten) := by
  unfold buildSoa
  rw [show copyRawNameFromStr [] ns none = rawNameFromStr ns none from rfl]
  simp only [copyRaw_append, Res.bind_assoc, bind_ok]

inductive RdataRun (h : RRHeader) : Bytes → Res Bytes → Prop
  | a {i ip i1} : h.rrType = 1 → ipv4P i = some (ip, i1) → endP i1 = some () → RdataRun h i (rrNew h ip)
  | aaaa {i ip i1} : h.rrType = 28 → ipv6P i = some (ip, i1) → endP i1 = some () → RdataRun h i (rrNew h ip)
  | name {i n i1} : h.rrType = 2 ∨ h.rrType = 5 ∨ h.rrType = 12 → hostnameP i = some (n, i1) → endP i1 = some () →
      RdataRun h i (buildName h n)
  | txt {i t i1} : h.rrType = 16 → quotedP i = some (t, i1) → endP i1 = some () → RdataRun h i (buildTxt h t)
  | mx {i pref i1 i2 n i3} : h.rrType = 15 → decimalMax 65535 i = some (pref, i1) → skipHws1 i1 = some i2 →
      hostnameP i2 = some (n, i3) → endP i3 = some () → RdataRun h i (buildMx h pref n)
  | soa {i ns i1 i2 ct i3 i4 a i5 b i6 c i7 d i8 e i9 i10} : h.rrType = 6 → hostnameP i = some (ns, i1) →
      skipHws1 i1 = some i2 → hostnameP i2 = some (ct, i3) → tokenP 40 (skipWhile isHws i3) = some i4 →
      decimalMax 4294967295 (skipWhile isWs i4) = some (a, i5) → decimalMax 4294967295 (skipWhile isWs i5) = some (b, i6) →
      decimalMax 4294967295 (skipWhile isWs i6) = some (c, i7) → decimalMax 4294967295 (skipWhile isWs i7) = some (d, i8) →
      decimalMax 4294967295 (skipWhile isWs i8) = some (e, i9) → tokenP 41 (skipWhile isWs i9) = some i10 →
      endP i10 = some () → RdataRun h i (buildSoa h ns ct [a, b, c, d, e])
  | ds {i tag i1 i2 alg i3 i4 dt i5 i6 dg i7} : h.rrType = 43 → decimalMax 65535 i = some (tag, i1) → skipHws1 i1 = some i2 →
      decimalMax 255 i2 = some (alg, i3) → skipHws1 i3 = some i4 → decimalMax 255 i4 = some (dt, i5) →
      skipHws1 i5 = some i6 → hexStringP i6 = some (dg, i7) → endP i7 = some () → RdataRun h i (buildDs h tag alg dt dg)

theorem rdataP_iff {h : RRHeader} {i : Bytes} {r : Res Bytes} : rdataP h i = some r ↔ RdataRun h i r := by
  unfold rdataP
  constructor
  · intro hp
    by_cases h1 : (h.rrType == TYPE_A) = true
    · rw [if_pos h1] at hp
      simp only [Option.bind_eq_bind, Option.bind_eq_some_iff, Option.pure_def, Option.some.injEq] at hp
      obtain ⟨⟨ip, i1⟩, hip, _, hend, rfl⟩ := hp
      exact .a (by simpa using h1) hip hend
    rw [if_neg h1] at hp
    by_cases h2 : (h.rrType == TYPE_AAAA) = true
    · rw [if_pos h2] at hp
      simp only [Option.bind_eq_bind, Option.bind_eq_some_iff, Option.pure_def, Option.some.injEq] at hp
      obtain ⟨⟨ip, i1⟩, hip, _, hend, rfl⟩ := hp
      exact .aaaa (by simpa using h2) hip hend
    rw [if_neg h2] at hp
    by_cases h3 : (h.rrType == TYPE_NS || h.rrType == TYPE_CNAME || h.rrType == TYPE_PTR) = true
    · rw [if_pos h3] at hp
      simp only [Option.bind_eq_bind, Option.bind_eq_some_iff, Option.pure_def, Option.some.injEq] at hp
      obtain ⟨⟨n, i1⟩, hn, _, hend, rfl⟩ := hp
      exact .name (by simpa [or_assoc] using h3) hn hend
    rw [if_neg h3] at hp
    by_cases h4 : (h.rrType == TYPE_TXT) = true
    · rw [if_pos h4] at hp
      simp only [Option.bind_eq_bind, Option.bind_eq_some_iff, Option.pure_def, Option.some.injEq] at hp
      obtain ⟨⟨t, i1⟩, ht, _, hend, rfl⟩ := hp
      exact .txt (by simpa using h4) ht hend
    rw [if_neg h4] at hp
    by_cases h5 : (h.rrType == TYPE_MX) = true
    · rw [if_pos h5] at hp
      simp only [Option.bind_eq_bind, Option.bind_eq_some_iff, Option.pure_def, Option.some.injEq] at hp
      obtain ⟨⟨pref, i1⟩, hpref, i2, hb, ⟨n, i3⟩, hn, _, hend, rfl⟩ := hp
      exact .mx (by simpa using h5) hpref hb hn hend
    rw [if_neg h5] at hp
    by_cases h6 : (h.rrType == TYPE_SOA) = true
    · rw [if_pos h6] at hp
      simp only [Option.bind_eq_bind, Option.bind_eq_some_iff, Option.pure_def, Option.some.injEq] at hp
      obtain ⟨⟨ns, i1⟩, hns, i2, hb1, ⟨ct, i3⟩, hct, i4, h40, ⟨a, i5⟩, ha, ⟨b, i6⟩, hb, ⟨c, i7⟩, hc, ⟨d, i8⟩, hd, ⟨e, i9⟩, he, i10, h41,
        _, hend, rfl⟩ := hp
      exact .soa (by simpa using h6) hns hb1 hct h40 ha hb hc hd he h41 hend
    rw [if_neg h6] at hp
    by_cases h7 : (h.rrType == TYPE_DS) = true
    · rw [if_pos h7] at hp
      simp only [Option.bind_eq_bind, Option.bind_eq_some_iff, Option.pure_def, Option.some.injEq] at hp
      obtain ⟨⟨tag, i1⟩, htag, i2, hb1, ⟨alg, i3⟩, halg, i4, hb2, ⟨dt, i5⟩, hdt, i6, hb3, ⟨dg, i7⟩, hdg, _, hend, rfl⟩ := hp
      exact .ds (by simpa using h7) htag hb1 halg hb2 hdt hb3 hdg hend
    rw [if_neg h7] at hp
    exact nomatch hp
  · intro hr
    consts
    cases hr with
    | a ht hip hend => simp [ht, hip, hend]
    | aaaa ht hip hend => simp [ht, hip, hend]
    | name ht hn hend => rcases ht with ht | ht | ht <;> simp [ht, hn, hend]
    | txt ht hq hend => simp [ht, hq, hend]
    | mx ht hpref hb hn hend => simp [ht, hpref, hb, hn, hend]
    | soa ht hns hb1 hct h40 ha hb hc hd he h41 hend => simp [ht, hns, hb1, hct, h40, ha, hb, hc, hd, he, h41, hend]
    | ds ht htag hb1 halg hb2 hdt hb3 hdg hend => simp [ht, TYPE_DS, htag, hb1, halg, hb2, hdt, hb3, hdg, hend]

end Dns
