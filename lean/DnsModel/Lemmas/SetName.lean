/-
  `set_raw_name` through a cursor on a record of a plain object: the owner name of that
  record is replaced (the record grows or shrinks, later sections move), nothing else changes.
-/
import DnsModel.Lemmas.SetField
import DnsModel.Lemmas.FirstTouch
namespace Dns
open Res

/-- resize by the difference of the name lengths, then write the new name over the old one -/
theorem resize_write (pp : PP) (c : Cursor) (sect : Section) (pre old rest post name : Bytes)
    (hpk : pp.packet = pre ++ (old ++ rest) ++ post) (hoff : c.offset = some pre.length)
    (hcs : c.currentSection pp = .ok sect) (hnx : c.offsetNext ≤ pp.packet.length) (hcur : old.length ≤ c.offsetNext)
    (hsize : old.length < name.length → pp.packet.length + name.length - old.length ≤ 65535) :
    ∃ x, resizeRR pp c (Int.ofNat name.length - Int.ofNat old.length) =
        .ok { pp := pp.afterResize c sect (Int.ofNat name.length - Int.ofNat old.length) x,
              cur := { c with offsetNext := c.offsetNext + name.length - old.length }, result := none } ∧
      writeAt x pre.length name = .ok (pre ++ (name ++ rest) ++ post) := by
  have hlen : pp.packet.length = pre.length + old.length + rest.length + post.length := by
    rw [hpk]; simp only [List.length_append]; omega
  have htk : pp.packet.take pre.length = pre := by rw [hpk, List.append_assoc, List.take_append_length]
  have hdr : pp.packet.drop pre.length = old ++ rest ++ post := by rw [hpk, List.append_assoc, List.drop_append_length]
  have hn : (c.offsetNext : Int) + (Int.ofNat name.length - Int.ofNat old.length) =
      ((c.offsetNext + name.length - old.length : Nat) : Int) := by simp only [Int.ofNat_eq_natCast]; omega
  -- in each case the buffer holds `|name|` bytes (whatever they are) between `pre` and `rest`
  rcases Nat.lt_trichotomy name.length old.length with hlt | heq | hgt
  · have e : Int.ofNat name.length - Int.ofNat old.length = -(Int.ofNat (old.length - name.length)) := by
      simp only [Int.ofNat_eq_natCast]; omega
    refine ⟨pp.packet.take pre.length ++ pp.packet.drop (pre.length + (old.length - name.length)),
      resizeRR_ok pp c hoff (by rw [e]; simp only [Int.ofNat_eq_natCast]; omega) (e ▸ resizeBytes_shrink (by omega)) hn hnx hcs, ?_⟩
    rw [htk, ← List.drop_drop, hdr, List.append_assoc, List.drop_append_of_le_length (by omega)]
    have := writeAt_inside pre post [] (old.drop (old.length - name.length)) rest name (by rw [List.length_drop]; omega)
    simpa only [List.nil_append, List.length_nil, Nat.add_zero, List.append_assoc] using this
  · have e : Int.ofNat name.length - Int.ofNat old.length = 0 := by simp only [Int.ofNat_eq_natCast]; omega
    refine ⟨pp.packet, ?_, ?_⟩
    · rw [e, afterResize_zero, show c.offsetNext + name.length - old.length = c.offsetNext by omega]
      rfl
    · have := writeAt_inside pre post [] old rest name heq
      rw [hpk]
      simpa only [List.nil_append, List.length_nil, Nat.add_zero] using this
  · have e : Int.ofNat name.length - Int.ofNat old.length = Int.ofNat (name.length - old.length) := by
      simp only [Int.ofNat_eq_natCast]; omega
    have hsz := hsize hgt
    refine ⟨_, resizeRR_ok pp c hoff (by rw [e]; simp only [Int.ofNat_eq_natCast]; omega)
      (e ▸ resizeBytes_grow (by omega) (by omega) (by omega)) hn hnx hcs, ?_⟩
    rw [htk, hdr]
    have hgap := take_pad_length (old ++ rest ++ post) (name.length - old.length)
    rw [show (old ++ rest ++ post).length = pp.packet.length - pre.length by rw [← hdr, List.length_drop]] at hgap
    have := writeAt_inside pre post [] ((old ++ rest ++ post).take (name.length - old.length) ++
        List.replicate (name.length - old.length - (pp.packet.length - pre.length)) 0 ++ old) rest name
      (by rw [List.length_append, hgap]; omega)
    simpa only [List.nil_append, List.length_nil, Nat.add_zero, List.append_assoc] using this

theorem checkArg_ok (ls : List (List UInt8)) (h : GoodLabels ls) :
    checkCompressedName (encLabels ls ++ [0]) 0 = .ok (labSum ls + 1) := by
  have hv := validName_at (u := encLabels ls ++ [0]) (A := []) (B := []) (by simp) h.1 h.2.1 h.2.2
  simp only [List.length_nil, Nat.zero_add] at hv
  exact checkCompressedName_complete _ _ _ _ hv

/-- `set_raw_name` up to the call of `resize_rr` -/
theorem setRawName_step {pp : PP} {c : Cursor} {off : Nat} {owner owner' : List (List UInt8)} (hgo : GoodLabels owner)
    (hgo' : GoodLabels owner') (hmc : pp.maybeCompressed = false) (hoff : c.offset = some off)
    (hsl : slice pp.packet off c.nameEnd = .ok (encLabels owner ++ [0])) :
    setRawName pp c (encLabels owner' ++ [0]) = (do
      let st ← resizeRR { pp with cached := none } c (Int.ofNat (labSum owner' + 1) - Int.ofNat (labSum owner + 1))
      if st.result.isSome then return st
      let packet ← writeAt st.pp.packet off (encLabels owner' ++ [0])
      let c' ← st.cur.recompute packet
      mOk { st.pp with packet := packet } c') := by
  have htk : (encLabels owner' ++ [0]).take (labSum owner' + 1) = encLabels owner' ++ [0] :=
    List.take_of_length_le (Nat.le_of_eq (encLen_eq owner'))
  have hmc' : ¬ pp.maybeCompressed = true := by rw [hmc]; exact Bool.false_ne_true
  unfold setRawName
  rw [checkArg_ok owner' hgo', if_neg hmc']
  simp only [htk, mOk, bind_ok, Option.isSome_none, Bool.false_eq_true, if_false, hoff, hsl, rawNameLen_enc owner hgo.1,
    encLen_eq]

/-- the cursor still designates the record: same start, new name end, new end -/
theorem PlainObj.set_name {pp : PP} (P : PlainObj pp) (sec : Section) (hs : sec.isRec = true) {ps1 ps2 : List Bytes} {rc : Bytes}
    (hsplit : P.lst sec = ps1 ++ rc :: ps2) (c : Cursor) {ne : Nat} {ob oa : Bool}
    (hr : RRAtPos pp.packet sec ⟨P.start sec + ps1.flatten.length, ne, P.start sec + ps1.flatten.length + rc.length⟩ ob oa)
    (hoff : c.offset = some (P.start sec + ps1.flatten.length))
    (hnext : c.offsetNext = P.start sec + ps1.flatten.length + rc.length) (hne : c.nameEnd = ne) (hsec : c.sec = sec)
    (h41 : get16 pp.packet ne ≠ 41) (owner' : List (List UInt8)) (hgo' : GoodLabels owner')
    (hsize : ne - (P.start sec + ps1.flatten.length) < labSum owner' + 1 →
      pp.packet.length + (labSum owner' + 1) - (ne - (P.start sec + ps1.flatten.length)) ≤ 65535) :
    ∃ (owner : List (List UInt8)) (f8 rd : Bytes) (pp' : PP) (P' : PlainObj pp'),
      rc = (encLabels owner ++ [0]) ++ f8 ++ put16 rd.length ++ rd ∧
      setRawName pp c (encLabels owner' ++ [0]) =
        mOk pp' (c.movedTo (P.start sec + ps1.flatten.length) (P.start sec + ps1.flatten.length + labSum owner' + 1)
          (P.start sec + ps1.flatten.length + ((encLabels owner' ++ [0]) ++ f8 ++ put16 rd.length ++ rd).length)) ∧
      P'.lst sec = ps1 ++ ((encLabels owner' ++ [0]) ++ f8 ++ put16 rd.length ++ rd) :: ps2 ∧
      (∀ s, s ≠ sec → P'.lst s = P.lst s) ∧ P'.qls = P.qls ∧ P'.q4 = P.q4 ∧ P'.hdr = P.hdr ∧
      pp'.cached = none ∧ pp'.ednsCount = pp.ednsCount ∧ pp'.extRcode = pp.extRcode ∧ pp'.ednsVersion = pp.ednsVersion ∧
      pp'.extFlags = pp.extFlags ∧ pp'.maxPayload = pp.maxPayload ∧
      pp'.offsetEdns = (if optLt c.offset pp.offsetEdns then
          pp.offsetEdns.map (fun x => x + ((encLabels owner' ++ [0]) ++ f8 ++ put16 rd.length ++ rd).length - rc.length)
        else pp.offsetEdns) ∧ GoodLabels owner ∧ f8.length = 8 ∧ rd.length < 65536 ∧ get16 f8 0 ≠ 41 := by
  obtain ⟨owner, f8, rd, pre, post, hpk, hprel, hrc, hgo, hf8, hlt, hnon, hne', hty⟩ := P.shape_at sec hs hsplit hr
  rw [hty] at h41
  obtain ⟨hpl, hrep⟩ := hnon h41
  have hps := hrep _ fun b => piece_of_shape sec owner' f8 rd hgo' hf8 hlt h41 hpl b
  have hol : ne - (P.start sec + ps1.flatten.length) = labSum owner + 1 := by omega
  rw [hol] at hsize
  have hfit := hr.pos_len.2.2
  simp only at hfit
  have hrcl := piece_length owner hf8 rd.length rd
  have hrcl' := piece_length owner' hf8 rd.length rd
  rw [← hrc] at hrcl
  have hd : ((encLabels owner' ++ [0]) ++ f8 ++ put16 rd.length ++ rd).length + (labSum owner + 1) = rc.length + (labSum owner' + 1) := by
    omega
  have hfun : (fun x => shiftNat x (Int.ofNat (labSum owner' + 1) - Int.ofNat (labSum owner + 1))) =
      (fun x => x + ((encLabels owner' ++ [0]) ++ f8 ++ put16 rd.length ++ rd).length - rc.length) :=
    funext fun x => by rw [shiftNat_sub]; omega
  have hpk1 : pp.packet = pre ++ ((encLabels owner ++ [0]) ++ (f8 ++ put16 rd.length ++ rd)) ++ post := by
    rw [hpk, hrc]; simp only [List.append_assoc]
  rw [← hprel] at hoff
  obtain ⟨x, hres, hwr⟩ := resize_write { pp with cached := none } c sec pre (encLabels owner ++ [0]) (f8 ++ put16 rd.length ++ rd) post
    (encLabels owner' ++ [0]) hpk1 hoff (P.currentSection_at sec hs hsplit (by omega) c (hprel ▸ hoff))
    (by rw [hnext]; exact hfit) (by rw [encLen_eq, hnext]; omega) (by rw [encLen_eq, encLen_eq]; exact hsize)
  rw [encLen_eq, encLen_eq, afterResize_eq, hfun] at hres
  let pp2 : PP := ({ pp with cached := none } : PP).resized c.offset sec
    (fun x => x + ((encLabels owner' ++ [0]) ++ f8 ++ put16 rd.length ++ rd).length - rc.length)
    (pre ++ ((encLabels owner' ++ [0]) ++ (f8 ++ put16 rd.length ++ rd)) ++ post)
  obtain ⟨P', f1, f2, f3, f4, f5⟩ := P.replace_piece sec hs hsplit ((encLabels owner' ++ [0]) ++ f8 ++ put16 rd.length ++ rd)
    hps hpk hprel pp2 (by show _ ++ _ ++ _ = _; simp only [List.append_assoc]) rfl P.mc _
    (fun x _ => rfl) (fun s hs' => resized_secOff _ _ _ _ _ s hs')
  -- where the record now lies: the cursor is recomputed on it
  obtain ⟨ne2, ob2, oa2, hr2⟩ := P'.rec_at sec hs f1
  rw [P.start_congr P' sec f3 f2] at hr2
  have hne2 := P'.ne_of_shape sec hs f1 owner' (f8 ++ put16 rd.length ++ rd) (by simp only [List.append_assoc]) hgo'
    (by rw [P.start_congr P' sec f3 f2]; exact hr2)
  rw [P.start_congr P' sec f3 f2] at hne2
  have hq : c.sec ≠ .question := by rw [hsec]; exact Section.ne_question_of_isRec hs
  have hrc2 := cursorRecompute_spec hr2 { c with offsetNext := c.offsetNext + (labSum owner' + 1) - (labSum owner + 1) } (hprel ▸ hoff) hq
  have hsl : slice pp.packet pre.length c.nameEnd = .ok (encLabels owner ++ [0]) := by
    have := slice_window (show pp.packet = pre ++ (encLabels owner ++ [0]) ++ (f8 ++ put16 rd.length ++ rd ++ post) by
      rw [hpk1]; simp only [List.append_assoc])
    rwa [encLen_eq, ← Nat.add_assoc, ← hne', ← hne] at this
  refine ⟨owner, f8, rd, pp2, P', hrc, ?_, f1, f2, f3, f4, f5, rfl, rfl, rfl, rfl, rfl, rfl, rfl, hgo, hf8, hlt, h41⟩
  rw [setRawName_step hgo hgo' P.mc hoff hsl, hres]
  simp only [bind_ok, Option.isSome_none, Bool.false_eq_true, if_false, PP.resized, hwr]
  show (do let c' ← Cursor.recompute pp2.packet { c with offsetNext := _ }; _) = _
  rw [hrc2]
  refine congrArg (mOk pp2) ?_
  rw [Cursor.movedTo, ← hprel, ← hoff, hprel, hne2]

theorem PlainObj.set_name_too_large {pp : PP} (P : PlainObj pp) (sec : Section) (hs : sec.isRec = true) {ps1 ps2 : List Bytes} {rc : Bytes}
    (hsplit : P.lst sec = ps1 ++ rc :: ps2) (c : Cursor) {ne : Nat} {ob oa : Bool}
    (hr : RRAtPos pp.packet sec ⟨P.start sec + ps1.flatten.length, ne, P.start sec + ps1.flatten.length + rc.length⟩ ob oa)
    (hoff : c.offset = some (P.start sec + ps1.flatten.length)) (hne : c.nameEnd = ne)
    (owner' : List (List UInt8)) (hgo' : GoodLabels owner')
    (hgrow : ne - (P.start sec + ps1.flatten.length) < labSum owner' + 1)
    (hbig : pp.packet.length + (labSum owner' + 1) - (ne - (P.start sec + ps1.flatten.length)) > 65535) :
    setRawName pp c (encLabels owner' ++ [0]) = .ok { pp := { pp with cached := none }, cur := c, result := some .packetTooLarge } := by
  obtain ⟨owner, f8, rd, pre, post, hpk, hprel, hrc, hgo, hf8, hlt, hnon, hne', hty⟩ := P.shape_at sec hs hsplit hr
  have hsl : slice pp.packet pre.length c.nameEnd = .ok (encLabels owner ++ [0]) := by
    have := slice_window (show pp.packet = pre ++ (encLabels owner ++ [0]) ++ (f8 ++ put16 rd.length ++ rd ++ post) by
      rw [hpk, hrc]; simp only [List.append_assoc])
    rwa [encLen_eq, ← Nat.add_assoc, ← hne', ← hne] at this
  have hol : ne - (P.start sec + ps1.flatten.length) = labSum owner + 1 := by omega
  rw [hol] at hgrow hbig
  rw [← hprel] at hoff
  have e : Int.ofNat (labSum owner' + 1) - Int.ofNat (labSum owner + 1) = Int.ofNat (labSum owner' + 1 - (labSum owner + 1)) := by
    simp only [Int.ofNat_eq_natCast]; omega
  rw [setRawName_step hgo hgo' P.mc hoff hsl, e,
    resizeRR_too_large { pp with cached := none } c pre.length (labSum owner' + 1 - (labSum owner + 1)) hoff
      (Nat.sub_pos_of_lt hgrow) (by show pp.packet.length + _ > 65535; omega)]
  rfl

end Dns
