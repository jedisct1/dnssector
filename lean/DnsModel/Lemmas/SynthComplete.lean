/-
  Every text of the grammar synthesises to the wire record it stands for.
-/
import DnsModel.Lemmas.Tokens
import DnsModel.Lemmas.Builders
import DnsModel.Theorems.C14
namespace Dns
open Res

theorem textLabel_of_host {l : Bytes} (h : HostLabel l) : TextLabel l := by
  obtain ⟨c, t, rfl, hc, ht, hlen⟩ := h
  refine ⟨by simp, hlen, ?_⟩
  intro x hx
  simp at hx
  rcases hx with rfl | hx
  · exact ⟨by have := host_not_dot x (Or.inl hc); simpa using this, (hostChars_ok x (Or.inl hc)).1⟩
  · exact ⟨by have := host_not_dot x (Or.inr (ht x hx)); simpa using this, (hostChars_ok x (Or.inr (ht x hx))).1⟩

theorem hostName_parse {n rest : Bytes} {ls : List (List UInt8)} (h : HostName n ls) (hs : StopF hostChar rest) :
    hostnameP (n ++ rest) = some (n, rest) ∧ rawNameFromStr n none = .ok (encLabels ls ++ [0]) := by
  rcases h with ⟨rfl, rfl⟩ | ⟨done, cur, hn, hd, hc, hne, hnum, hls, hlen⟩
  · exact ⟨hostnameP_dot hs, by simp [C14.fromStr_dot, encLabels]⟩
  · refine ⟨hostnameP_lang ⟨done, cur, hn, hd, hc, hne, hnum⟩ hs, ?_⟩
    have hrun : TextRun cur := by
      rcases hc with rfl | hcl
      · exact ⟨by simp, by simp⟩
      · have := textLabel_of_host hcl; exact ⟨this.2.1, this.2.2⟩
    have := C14.from_text_complete done cur none (fun l hl => textLabel_of_host (hd l hl)) hrun (by
      rw [← hls]
      by_cases hcur : cur = [] <;> simp [hcur, encLabels_length] <;> omega)
    rw [hn, this, ← hls]
    by_cases hcur : cur = [] <;> simp [hcur]

theorem txtWire_eq : ∀ (fuel : Nat) (b : Bytes), txtWire fuel b = chunks255 fuel b := by
  intro fuel
  induction fuel with
  | zero => intro b; simp [txtWire, chunks255]
  | succ n ih =>
    intro b
    cases b with
    | nil => simp [txtWire, chunks255]
    | cons c b => simp only [txtWire, chunks255]; rw [ih]

theorem rrTypeOfStr_iff {w : Bytes} {t : Nat} : rrTypeOfStr w = some t ↔ TypeWord w t := by
  have lits : lowerBytes [65] = [97] ∧ lowerBytes [65, 65, 65, 65] = [97, 97, 97, 97] ∧ lowerBytes [78, 83] = [110, 115] ∧
      lowerBytes [67, 78, 65, 77, 69] = [99, 110, 97, 109, 101] ∧ lowerBytes [80, 84, 82] = [112, 116, 114] ∧
      lowerBytes [84, 88, 84] = [116, 120, 116] ∧ lowerBytes [77, 88] = [109, 120] ∧ lowerBytes [83, 79, 65] = [115, 111, 97] ∧
      lowerBytes [68, 83] = [100, 115] := by decide
  obtain ⟨l1, l2, l3, l4, l5, l6, l7, l8, l9⟩ := lits
  unfold rrTypeOfStr eqNoCase TypeWord
  rw [l1, l2, l3, l4, l5, l6, l7, l8, l9]
  generalize lowerBytes w = x
  -- either `x` is one of the nine words and both sides evaluate, or both sides are false
  by_cases hx : x ∈ [[97], [97, 97, 97, 97], [110, 115], [99, 110, 97, 109, 101], [112, 116, 114], [116, 120, 116], [109, 120],
      [115, 111, 97], [100, 115]]
  · simp only [List.mem_cons, List.not_mem_nil, or_false] at hx
    rcases hx with rfl | rfl | rfl | rfl | rfl | rfl | rfl | rfl | rfl <;> simp (decide := true) [eq_comm]
  · simp only [List.mem_cons, List.not_mem_nil, or_false, not_or] at hx
    simp [hx]

theorem isAlpha_of_lower {c : UInt8} (h : isAlpha (toLowerB c) = true) : isAlpha c = true := by
  unfold toLowerB at h
  split at h
  · simp [isAlpha]; omega
  · exact h

theorem typeWord_chars {w : Bytes} {t : Nat} (h : TypeWord w t) : w ≠ [] ∧ ∀ c ∈ w, (isAlpha c || isDigit c) = true := by
  have key : ∀ lit : Bytes, lowerBytes w = lit → (lit ≠ [] ∧ ∀ c ∈ lit, isAlpha c = true) →
      w ≠ [] ∧ ∀ c ∈ w, (isAlpha c || isDigit c) = true := by
    rintro lit hl ⟨hne, hlit⟩
    refine ⟨by rintro rfl; exact hne hl.symm, fun c hc => ?_⟩
    rw [isAlpha_of_lower (hlit _ (hl ▸ List.mem_map_of_mem hc)), Bool.true_or]
  rcases h with ⟨hw, _⟩ | ⟨hw, _⟩ | ⟨hw, _⟩ | ⟨hw, _⟩ | ⟨hw, _⟩ | ⟨hw, _⟩ | ⟨hw, _⟩ | ⟨hw, _⟩ | ⟨hw, _⟩ <;>
    exact key _ hw (by decide)

theorem typeWord_type {w : Bytes} {t : Nat} (h : TypeWord w t) : t < 65536 ∧ t ≠ 41 := by
  rcases h with ⟨_, rfl⟩ | ⟨_, rfl⟩ | ⟨_, rfl⟩ | ⟨_, rfl⟩ | ⟨_, rfl⟩ | ⟨_, rfl⟩ | ⟨_, rfl⟩ | ⟨_, rfl⟩ | ⟨_, rfl⟩ <;> decide

theorem hws_cases {c : UInt8} (h : isHws c = true) : c = 32 ∨ c = 9 := by simpa [isHws] using h

theorem excl_symm {f g : UInt8 → Bool} (h : ∀ c, f c = true → g c = false) (c : UInt8) (hg : g c = true) : f c = false := by
  cases hf : f c with
  | false => rfl
  | true => rw [h c hf] at hg; exact nomatch hg

theorem hws_not_host (c : UInt8) (h : isHws c = true) : hostChar c = false := by
  unfold isHws at h
  simp at h
  rcases h with rfl | rfl <;> decide

theorem hws_not_digit (c : UInt8) (h : isHws c = true) : isDigit c = false := by rcases hws_cases h with rfl | rfl <;> rfl

theorem hws_not_alnum (c : UInt8) (h : isHws c = true) : (isAlpha c || isDigit c) = false := by
  rcases hws_cases h with rfl | rfl <;> rfl

theorem hws_not_hex (c : UInt8) (h : isHws c = true) : isHexDigit c = false := by rcases hws_cases h with rfl | rfl <;> rfl

theorem hws_not_hexcolon (c : UInt8) (h : isHws c = true) : (isHexDigit c || c == 58) = false := by
  rcases hws_cases h with rfl | rfl <;> rfl

theorem hws_not_hostFirst (c : UInt8) (h : isHws c = true) : hostFirst c = false := by rcases hws_cases h with rfl | rfl <;> rfl

theorem ws_not_digit (c : UInt8) (h : isWs c = true) : isDigit c = false := by
  simp only [isWs, Bool.or_eq_true, Bool.and_eq_true, decide_eq_true_eq, beq_iff_eq] at h
  rcases h with h | rfl
  · simp [isDigit]; omega
  · rfl

theorem stopF_of_run {f g : UInt8 → Bool} {x rest : Bytes} (hx : x ≠ [] ∧ ∀ c ∈ x, g c = true)
    (hgf : ∀ c, g c = true → f c = false) : StopF f (x ++ rest) := by
  obtain ⟨hne, hall⟩ := hx
  cases x with
  | nil => exact absurd rfl hne
  | cons c r => exact stopF_cons (hgf c (hall c (by simp)))

theorem blanks_stop {f : UInt8 → Bool} {b : Bytes} (hb : Blanks b) (hf : ∀ c, isHws c = true → f c = false) : StopF f b := by
  intro c r e
  subst e
  exact hf c (hb c (by simp))

theorem hostName_stop {n rest : Bytes} {ls : List (List UInt8)} (h : HostName n ls) : StopF isHws (n ++ rest) := by
  have first : ∀ {l : Bytes} {x : Bytes}, HostLabel l → StopF isHws (l ++ x) := by
    rintro _ x ⟨c, t, rfl, hc, _⟩
    exact stopF_cons (excl_symm hws_not_hostFirst c hc)
  rcases h with ⟨rfl, _⟩ | ⟨done, cur, rfl, hd, hc, hne, _⟩
  · exact stopF_cons (by decide)
  · cases done with
    | nil =>
      rcases hc with rfl | hc
      · exact absurd rfl hne
      · exact first hc
    | cons l done =>
      simp only [dotted, List.flatMap_cons, List.append_assoc]
      exact first (hd l (by simp))

theorem endP_blanks {b : Bytes} (hb : Blanks b) : endP b = some () := by
  unfold endP eofP
  have := skipWhile_lang (f := isHws) (a := b) (rest := []) hb (stopF_nil _)
  simp only [List.append_nil] at this
  simp [this]

theorem commonP_lang {b0 owner b1 ttl b2 b3 tw b4 rest : Bytes} {cI cN : UInt8} {ols : List (List UInt8)} {ty : Nat}
    (hb0 : Blanks b0) (hown : HostName owner ols) (hb1 : Blanks1 b1) (httl : Numeral ttl) (hv : decVal ttl ≤ 4294967295)
    (hb2 : Blanks1 b2) (hI : cI = 73 ∨ cI = 105) (hN : cN = 78 ∨ cN = 110) (hb3 : Blanks1 b3) (htw : TypeWord tw ty)
    (hb4 : Blanks1 b4) (hrest : StopF isHws rest) :
    commonP (b0 ++ (owner ++ (b1 ++ (ttl ++ (b2 ++ (cI :: cN :: (b3 ++ (tw ++ (b4 ++ rest))))))))) =
      some ({ name := owner, ttl := decVal ttl, rrType := ty }, rest) := by
  have ht := typeWord_chars htw
  obtain ⟨c2, r2, rfl⟩ : ∃ c2 r2, b2 = c2 :: r2 := by
    cases b2 with
    | nil => exact absurd rfl hb2.1
    | cons c r => exact ⟨c, r, rfl⟩
  have hc2 : isHws c2 = true := hb2.2 c2 (by simp)
  have hIh : isHws cI = false := by rcases hI with rfl | rfl <;> rfl
  have hIc : (cI == 73 || cI == 105) = true := by rcases hI with rfl | rfl <;> rfl
  have hNc : (cN == 78 || cN == 110) = true := by rcases hN with rfl | rfl <;> rfl
  unfold commonP
  simp only [Option.bind_eq_bind, skipWhile_lang hb0 (hostName_stop hown), (hostName_parse hown (stopF_of_run hb1 hws_not_host)).1,
    Option.bind_some, skipWhile_lang hb1.2 (stopF_of_run httl (excl_symm hws_not_digit)),
    decimalMax_lang httl (stopF_cons (hws_not_digit c2 hc2)) hv, List.cons_append, hc2, if_true,
    skipWhile_lang (fun c hc => hb2.2 c (List.mem_cons_of_mem _ hc)) (stopF_cons hIh), hIc, hNc,
    skipHws1_lang hb3 (stopF_of_run ht (excl_symm hws_not_alnum)), takeWhile1_lang ht (stopF_of_run hb4 hws_not_alnum),
    rrTypeOfStr_iff.2 htw, skipHws1_lang hb4 hrest, Option.pure_def]

theorem decimalMax_after_ws {max : Nat} {w n rest : Bytes} (hw : Spaces w) (hn : Numeral n) (hv : decVal n ≤ max)
    (hs : StopF isDigit rest) : decimalMax max (skipWhile isWs (w ++ (n ++ rest))) = some (decVal n, rest) := by
  rw [skipWhile_lang hw (stopF_of_run hn (excl_symm ws_not_digit)), decimalMax_lang hn hs hv]

theorem rdataP_lang {h : RRHeader} {rdt rd b5 : Bytes} (hr : RDataText h.rrType rdt rd) (hb5 : Blanks b5) :
    rdataP h (rdt ++ b5) = some (rrNew h rd) := by
  have hend := endP_blanks hb5
  rw [rdataP_iff]
  generalize hty : h.rrType = ty at hr
  cases hr with
  | a d0 d1 d2 d3 n0 n1 n2 n3 v0 v1 v2 v3 =>
    refine .a hty ?_ hend
    simpa using ipv4P_lang n0 n1 n2 n3 v0 v1 v2 v3 (blanks_stop hb5 hws_not_digit)
  | aaaa s gs hv => exact .aaaa hty (ipv6P_lang hv (blanks_stop hb5 hws_not_hexcolon)) hend
  | name t n ls ht hn =>
    obtain ⟨hp, hrn⟩ := hostName_parse hn (blanks_stop hb5 hws_not_host)
    rw [← show buildName h rdt = rrNew h (encLabels ls ++ [0]) by unfold buildName; rw [hrn]; rfl]
    exact .name (hty ▸ ht) hp hend
  | txt body vs hq hne hl =>
    rw [txtWire_eq, ← show buildTxt h vs = rrNew h (chunks255 (vs.length + 1) vs) by rw [buildTxt_eq, if_neg (by omega)]]
    refine .txt hty ?_ hend
    simpa using quotedP_lang (rest := b5) hq hne
  | mx p b n ls hp hpv hb hn =>
    obtain ⟨hpn, hrn⟩ := hostName_parse hn (blanks_stop hb5 hws_not_host)
    rw [← show buildMx h (decVal p) n = rrNew h (put16 (decVal p) ++ (encLabels ls ++ [0])) by rw [buildMx_eq, hrn]; rfl]
    simp only [List.append_assoc]
    exact .mx hty (decimalMax_lang hp (stopF_of_run hb hws_not_digit) hpv)
      (skipHws1_lang hb (hostName_stop hn)) hpn hend
  | ds tag b1 alg b2 dt b3 hex dg htag htv hb1 halg hav hb2 hdt hdv hb3 hhex hne =>
    simp only [List.append_assoc]
    exact .ds hty (decimalMax_lang htag (stopF_of_run hb1 hws_not_digit) htv)
      (skipHws1_lang hb1 (stopF_of_run halg (excl_symm hws_not_digit)))
      (decimalMax_lang halg (stopF_of_run hb2 hws_not_digit) hav)
      (skipHws1_lang hb2 (stopF_of_run hdt (excl_symm hws_not_digit)))
      (decimalMax_lang hdt (stopF_of_run hb3 hws_not_digit) hdv)
      (skipHws1_lang hb3 (stopF_of_run ⟨hne, hhex.digits⟩ (excl_symm hws_not_hex)))
      (hexStringP_lang hhex hne (blanks_stop hb5 hws_not_hex)) hend
  | soa ns b1 ct b2 w0 n1 w1 n2 w2 n3 w3 n4 w4 n5 w5 l1 l2 hns hb1 hct hb2 hw0 hn1 hw1 hn2 hw2 hn3 hw3 hn4 hw4 hn5 hw5
      v1 v2 v3 v4 v5 =>
    have hstop40 : ∀ x : Bytes, StopF hostChar (b2 ++ 40 :: x) := by
      intro x
      cases b2 with
      | nil => exact stopF_cons (by decide)
      | cons c r => exact stopF_cons (hws_not_host c (hb2 c (by simp)))
    have stop41 : StopF isDigit (w5 ++ 41 :: b5) := by
      cases w5 with
      | nil => exact stopF_cons (by decide)
      | cons c r => exact stopF_cons (ws_not_digit c (hw5 c (by simp)))
    obtain ⟨hpns, hrns⟩ := hostName_parse (rest := b1 ++ (ct ++ (b2 ++ 40 :: (w0 ++ (n1 ++ (w1 ++ (n2 ++ (w2 ++ (n3 ++ (w3 ++ (n4 ++
      (w4 ++ (n5 ++ (w5 ++ 41 :: b5)))))))))))))) hns (stopF_of_run hb1 hws_not_host)
    obtain ⟨hpct, hrct⟩ := hostName_parse hct (hstop40 _)
    rw [← show buildSoa h ns ct [decVal n1, decVal n2, decVal n3, decVal n4, decVal n5] = rrNew h _ by
      rw [buildSoa_eq, hrns, hrct]; simp]
    simp only [List.append_assoc, List.cons_append, List.nil_append]
    exact .soa hty hpns (skipHws1_lang hb1 (hostName_stop hct)) hpct
      (by rw [skipWhile_lang hb2 (stopF_cons (by decide))]; exact tokenP_cons 40 _)
      (decimalMax_after_ws hw0 hn1 v1 (stopF_of_run hw1 ws_not_digit))
      (decimalMax_after_ws hw1.2 hn2 v2 (stopF_of_run hw2 ws_not_digit))
      (decimalMax_after_ws hw2.2 hn3 v3 (stopF_of_run hw3 ws_not_digit))
      (decimalMax_after_ws hw3.2 hn4 v4 (stopF_of_run hw4 ws_not_digit))
      (decimalMax_after_ws hw4.2 hn5 v5 stop41)
      (by rw [skipWhile_lang hw5 (stopF_cons (by decide))]; exact tokenP_cons 41 _) hend

theorem rdataText_stop {ty : Nat} {rdt rd rest : Bytes} (h : RDataText ty rdt rd) : StopF isHws (rdt ++ rest) := by
  cases h with
  | a d0 d1 d2 d3 n0 => rw [List.append_assoc]; exact stopF_of_run n0 (excl_symm hws_not_digit)
  | aaaa s gs hv => exact stopF_of_run (v6Text_chars hv) (excl_symm hws_not_hexcolon)
  | name t n ls _ hn => exact hostName_stop hn
  | txt => exact stopF_cons (by decide)
  | mx p b n ls hp => rw [List.append_assoc]; exact stopF_of_run hp (excl_symm hws_not_digit)
  | soa ns b1 ct b2 w0 n1 w1 n2 w2 n3 w3 n4 w4 n5 w5 l1 l2 hns => rw [List.append_assoc]; exact hostName_stop hns
  | ds tag b1 alg b2 dt b3 hex dg htag => rw [List.append_assoc]; exact stopF_of_run htag (excl_symm hws_not_digit)

theorem synth_complete {t rr : Bytes} (h : RecordText t rr) : synth t = .ok rr := by
  obtain ⟨b0, owner, b1, ttl, b2, cI, cN, b3, tw, b4, rdt, b5, rd, ols, ty, rfl, hb0, hown, hb1, httl, hv, hb2, hI, hN, hb3,
    htw, hb4, hrd, hb5, hlen, rfl⟩ := h
  have hraw := (hostName_parse hown (stopF_nil _)).2
  unfold synth
  rw [commonP_lang hb0 hown hb1 httl hv hb2 hI hN hb3 htw hb4 (rdataText_stop hrd)]
  simp only
  rw [rdataP_lang (h := { name := owner, ttl := decVal ttl, rrType := ty }) hrd hb5]
  exact rrNew_iff.2 ⟨_, hraw, hlen, rfl⟩

end Dns
