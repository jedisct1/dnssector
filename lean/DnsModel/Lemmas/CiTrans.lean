/-
  If two records have the same canonical form, whatever is equal to the first up to
  case is equal to the second up to case.
-/
import DnsModel.Lemmas.CompressRun
namespace Dns
open Res

theorem rdCi_transfer {u c u2 : Bytes} {t l rs lc rsc l2 rs2 : Nat} {x : Bytes} (hc : RdCanon c t lc rsc x)
    (h2 : RdCanon u2 t l2 rs2 x) (hfc : rsc + lc ≤ c.length) (hf2 : rs2 + l2 ≤ u2.length) (hci : RdCi u c t l rs lc rsc) :
    RdCi u u2 t l rs l2 rs2 := by
  rcases rdClass t with ht | rfl | rfl | ⟨h1, h2', h3⟩
  · rw [RdCi.name_iff ht] at hci ⊢
    obtain ⟨ls, lsc, hvu, hvc', hcil⟩ := hci
    obtain ⟨lsc', hvc, rfl⟩ := (RdCanon.name_iff ht).1 hc
    obtain ⟨ls2, hv2, e2⟩ := (RdCanon.name_iff ht).1 h2
    obtain rfl := (validName_functional hvc' hvc).1
    obtain rfl := encLabels_inj (validName_ok hvc).1 (validName_ok hv2).1 [] [] (by simpa using e2)
    exact ⟨ls, lsc, hvu, hv2, hcil⟩
  · rw [RdCi.mx_iff] at hci ⊢
    obtain ⟨hpref, ls, lsc, hvu, hvc', hcil⟩ := hci
    obtain ⟨lsc', hvc, rfl⟩ := RdCanon.mx_iff.1 hc
    obtain ⟨ls2, hv2, e2⟩ := RdCanon.mx_iff.1 h2
    obtain rfl := (validName_functional hvc' hvc).1
    have hp2c : ((c.drop rsc).take 2).length = 2 := length_take_drop (by have := hvc.1; omega)
    have hp22 : ((u2.drop rs2).take 2).length = 2 := length_take_drop (by have := hv2.1; omega)
    obtain ⟨e3, e4⟩ := List.append_inj e2 (hp2c.trans hp22.symm)
    obtain rfl := encLabels_inj (validName_ok hvc).1 (validName_ok hv2).1 [] [] (by simpa using e4)
    exact ⟨by rw [← e3, hpref], ls, lsc, hvu, hv2, hcil⟩
  · rw [RdCi.soa_iff] at hci ⊢
    obtain ⟨l1, l2', l1c, l2c, e1u, e1c', hv1u, hv2u, hv1c', hv2c', hci1, hci2, hmeta⟩ := hci
    obtain ⟨l1c', l2c', e1c, hv1c, hv2c, rfl⟩ := RdCanon.soa_iff.1 hc
    obtain ⟨l12, l22, e12, hv12, hv22, e2⟩ := RdCanon.soa_iff.1 h2
    obtain ⟨rfl, rfl⟩ := validName_functional hv1c' hv1c
    obtain rfl := (validName_functional hv2c' hv2c).1
    simp only [List.append_assoc, List.cons_append, List.nil_append] at e2
    obtain rfl := encLabels_inj (validName_ok hv1c).1 (validName_ok hv12).1 _ _ e2
    have e4 := List.cons.inj (List.append_cancel_left e2)
    obtain rfl := encLabels_inj (validName_ok hv2c).1 (validName_ok hv22).1 _ _ e4.2
    have e6 := List.cons.inj (List.append_cancel_left e4.2)
    exact ⟨l1, l2', l1c, l2c, e1u, e12, hv1u, hv2u, hv12, hv22, hci1, hci2, by rw [← e6.2, hmeta]⟩
  · rw [RdCi.verbatim_iff h1 h2' h3] at hci ⊢
    rw [RdCanon.verbatim_iff h1 h2' h3] at hc h2
    obtain ⟨hl, hwin⟩ := hci
    have hlen : l2 = lc := by
      have := congrArg List.length (h2.symm.trans hc)
      rwa [length_take_drop hf2, length_take_drop hfc] at this
    subst hlen
    exact ⟨hl, by rw [← hl, ← h2, hc, hl, hwin]⟩

theorem recCi_transfer {u c u2 : Bytes} {r r' r2 : RecPos} {sec sec2 : Section} {ob oa ob2 oa2 : Bool}
    (hrc : RRAtPos c sec r' ob oa) (hr2 : RRAtPos u2 sec2 r2 ob2 oa2) {x : Bytes}
    (hc : RecCanon c r' x) (h2 : RecCanon u2 r2 x) (hci : RecCi u r c r') (h10u : r.ne + 10 ≤ u.length) :
    RecCi u r u2 r2 := by
  obtain ⟨oc, rdc, hvoc, hrdc, hxc⟩ := hc
  obtain ⟨o2, rd2, hvo2, hrd2, hx2⟩ := h2
  obtain ⟨_, h10c, hnextc, hfitc, _⟩ := hrc
  obtain ⟨_, h102, hnext2, hfit2, _⟩ := hr2
  have hf8c : ((c.drop r'.ne).take 8).length = 8 := length_take_drop (by omega)
  have hf82 : ((u2.drop r2.ne).take 8).length = 8 := length_take_drop (by omega)
  obtain ⟨rfl, ef, rfl⟩ := canon_split (validName_ok hvoc).1 (validName_ok hvo2).1 hf8c hf82 (by rw [← hxc, ← hx2])
  obtain ⟨ou, oc', hvou, hvoc', hcio, hf8, hrdci⟩ := hci
  obtain rfl := (validName_functional hvoc' hvoc).1
  have htc : get16 c r'.ne = get16 u r.ne := take8_get16 hf8 (by omega) (by omega)
  have ht2 : get16 u2 r2.ne = get16 u r.ne := (take8_get16 ef.symm (by omega) (by omega)).trans htc
  rw [htc] at hrdc
  rw [ht2] at hrd2
  exact ⟨ou, oc', hvou, hvo2, hcio, by rw [← ef, hf8],
    rdCi_transfer hrdc hrd2 (hnextc ▸ hfitc) (hnext2 ▸ hfit2) hrdci⟩

theorem runCi_transfer {u c u2 : Bytes} {sec sec2 : Section} :
    ∀ {l l' l2 : List RecPos} {ps : List Bytes} {off e off2 e2 : Nat} {ob oe ob2 oe2 : Bool},
      RRsL c sec l' off ob e oe → RRsL u2 sec2 l2 off2 ob2 e2 oe2 → CanonRun c l' ps → CanonRun u2 l2 ps →
      RunCi u c l l' → (∀ r ∈ l, r.ne + 10 ≤ u.length) → RunCi u u2 l l2 := by
  intro l l' l2 ps off e off2 e2 ob oe ob2 oe2 hc h2 hcc hc2 hci hfit
  induction hci generalizing l2 ps off off2 ob ob2 with
  | nil =>
    cases hcc
    cases hc2
    exact RunCi.nil
  | @cons r r' l l' hrc _ ih =>
    cases hcc with
    | @cons _ _ x ps hx hcc' =>
      cases hc2 with
      | @cons r2 l2 _ _ hx2 hc2' =>
        obtain ⟨_, om, hpos, hrest⟩ := hc.cons_inv
        obtain ⟨_, om2, hpos2, hrest2⟩ := h2.cons_inv
        exact RunCi.cons (recCi_transfer hpos hpos2 hx hx2 hrc (hfit r (by simp)))
          (ih hrest hrest2 hcc' hc2' (fun z hz => hfit z (by simp [hz])))

end Dns
