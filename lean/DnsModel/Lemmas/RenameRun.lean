/-
  Renaming the question and a whole section.
-/
import DnsModel.Lemmas.RenameRec
import DnsModel.Lemmas.CompressRun
namespace Dns
open Res

/-- records of `B` are the records of `u`, one by one, with their names renamed by `R` -/
inductive RunRen (R : List (List UInt8) → List (List UInt8) → Prop) (u B : Bytes) : List RecPos → List RecPos → Prop
  | nil : RunRen R u B [] []
  | cons {r r' : RecPos} {l l' : List RecPos} : RecRen R u r B r' → RunRen R u B l l' → RunRen R u B (r :: l) (r' :: l')

theorem RunRen.length {R : List (List UInt8) → List (List UInt8) → Prop} {u B : Bytes} {l l' : List RecPos}
    (h : RunRen R u B l l') : l'.length = l.length := by
  induction h with
  | nil => rfl
  | cons _ _ ih => simp [ih]

theorem RunRen.ci {R : List (List UInt8) → List (List UInt8) → Prop} {u B : Bytes} {l l' : List RecPos}
    (h : RunRen R u B l l') (hR : ∀ {a b}, R a b → lsCi b a) : RunCi u B l l' := by
  induction h with
  | nil => exact RunCi.nil
  | cons hr _ ih => exact RunCi.cons (hr.ci hR) ih

theorem fold_rename {pp : PP} {sec : Section} {l : List RecPos} {off e : Nat} {ob oe : Bool} {src tgt : List (List UInt8)}
    (hs : ArgName src) (ht : ArgName tgt) (sfx : Bool) (hl : RRsL pp.packet sec l off ob e oe) :
    ∀ (cs : List Cursor), cs.map posOf = l.map some → ∀ (dict : SuffixDict) (out : Bytes), DictInv dict out →
      (∃ (dict' : SuffixDict) (em : Bytes),
        foldRes (renameResponseItem pp (encLabels tgt ++ [0]) (encLabels src ++ [0]) sfx) (dict, out) cs = .ok (dict', out ++ em) ∧
        DictInv dict' (out ++ em) ∧
        ∀ tl : Bytes, ∃ l', RRsL (out ++ em ++ tl) sec l' out.length ob (out.length + em.length) oe ∧
          RunRen (Renamed src tgt sfx) pp.packet (out ++ em ++ tl) l l' ∧
          l'.map (fun r => get16 (out ++ em ++ tl) r.ne) = l.map (fun r => get16 pp.packet r.ne)) ∨
      (foldRes (renameResponseItem pp (encLabels tgt ++ [0]) (encLabels src ++ [0]) sfx) (dict, out) cs = .err .invalidName ∧
        ∃ r ∈ l, RecOverflow (Renamed src tgt sfx) pp.packet r) := by
  intro cs hcs dict out hinv
  rcases fold_records (R := fun r B r' => RecRen (Renamed src tgt sfx) pp.packet r B r')
      (Run := fun l B l' => RunRen (Renamed src tgt sfx) pp.packet B l l') (Bad := RecOverflow (Renamed src tgt sfx) pp.packet)
      (bounded := False) (ee := .invalidName) (fun _ => RunRen.nil) RunRen.cons hl
      (fun r _ _ _ hrr c hc dict out hinv => (rename_record hrr c hc hs ht sfx dict out hinv).imp
        (fun ⟨d, piece, h1, h2, h3⟩ => ⟨d, piece, h1, False.elim, h2, h3⟩) id)
      cs hcs dict out hinv with ⟨d, em, h1, _, h2, h3⟩ | h
  · exact Or.inl ⟨d, em, h1, h2, h3⟩
  · exact Or.inr h

theorem rename_question {pp : PP} {qe : Nat} {ls src tgt : List (List UInt8)} (hv : ValidName pp.packet 12 ls qe)
    (hq4 : qe + 4 ≤ pp.packet.length) (hs : ArgName src) (ht : ArgName tgt) (sfx : Bool) (dict : SuffixDict) (out : Bytes)
    (hinv : DictInv dict out) :
    ∃ lsr, Renamed src tgt sfx ls lsr ∧
    ((∃ (dict' : SuffixDict) (em : Bytes) (ls' : List (List UInt8)),
      renameQuestionItem pp (encLabels tgt ++ [0]) (encLabels src ++ [0]) sfx (dict, out) ⟨.question, some 12, qe + 4, qe, 0⟩ =
        .ok (dict', out ++ (em ++ (pp.packet.drop qe).take 4)) ∧
      0 < em.length ∧ lsCi ls' lsr ∧ DictInv dict' (out ++ (em ++ (pp.packet.drop qe).take 4)) ∧
      ∀ tl : Bytes, ValidName (out ++ (em ++ (pp.packet.drop qe).take 4) ++ tl) out.length ls' (out.length + em.length)) ∨
    (renameQuestionItem pp (encLabels tgt ++ [0]) (encLabels src ++ [0]) sfx (dict, out) ⟨.question, some 12, qe + 4, qe, 0⟩ =
        .err .invalidName ∧ 255 < wireLen lsr)) := by
  obtain ⟨lsr, hren, hcase⟩ := copyReplaced_spec hv hs ht sfx dict out.length out rfl hinv
  refine ⟨lsr, hren, ?_⟩
  cases hcase with
  | inr h =>
    obtain ⟨hbig, herr⟩ := h
    right
    refine ⟨?_, hbig⟩
    unfold renameQuestionItem
    simp only [unwrap, bind_ok, herr, bind_err]
  | inl h =>
    obtain ⟨_, dict', em, hgen, hpos, _, hall⟩ := h
    obtain ⟨hd, ls', hci, hval⟩ := hall out rfl hinv
    left
    refine ⟨dict', em, ls', ?_, hpos, hci, by simpa [List.append_assoc] using hd.append _, ?_⟩
    · unfold renameQuestionItem
      simp only [unwrap, bind_ok, hgen out rfl, failIf, DNS_RR_QUESTION_HEADER_SIZE, decide_eq_false (Nat.not_lt.2 hq4),
        Bool.false_eq_true, if_false, slice_add hq4, List.append_assoc, pure_eq]
    · intro tl
      have := hval ((pp.packet.drop qe).take 4 ++ tl)
      simpa [List.append_assoc] using this

end Dns
