/-
  `recompute` on an object that still has its parse-time flag (before and after its bytes
  were decompressed), and `insert_rr` of a well-formed record into a plain object.
-/
import DnsModel.Lemmas.PlainObj
import DnsModel.Lemmas.EdnsCanon
namespace Dns
open Res

theorem rrcountInc_ok (pp : PP) (s : Section) (hs : s.isRec = true) {hdr rest : Bytes} (hpk : pp.packet = hdr ++ rest)
    (hh : hdr.length = 12) (hlt : get16 hdr (sectionCountOffset s) < 65535) :
    ∃ hdr', rrcountInc pp s = .ok ({ pp with packet := hdr' ++ rest }, none) ∧
      hdr'.length = 12 ∧ get16 hdr' (sectionCountOffset s) = get16 hdr (sectionCountOffset s) + 1 ∧
      ∀ k, (k + 1 < sectionCountOffset s ∨ sectionCountOffset s + 1 < k) → get16 hdr' k = get16 hdr k := by
  obtain ⟨hdr', hw, hh', hg, hgo⟩ := patch_header (rest := rest) hh (sectionCountOffset s)
    (get16 hdr (sectionCountOffset s) + 1) (sectionCountOffset_le s) (by omega)
  refine ⟨hdr', ?_, hh', hg, hgo⟩
  have hq : (s == Section.question) = false := beq_eq_false_iff_ne.2 (Section.ne_question_of_isRec hs)
  have hmax : ¬ (get16 hdr (sectionCountOffset s) ≥ 0xffff) := by omega
  unfold rrcountInc
  rw [hpk, sectionCount_hdr hh s (Section.ne_edns_of_isRec hs)]
  simp only [bind_ok, hq, Bool.false_and, Bool.false_eq_true, if_false, hmax, hw, pure_eq]

theorem rrcountInc_inv {pp pp' : PP} {s : Section} {e : Option Err} (h : rrcountInc pp s = .ok (pp', e)) :
    (pp' = pp ∧ e = some .invalidPacket) ∨ (e = none ∧ pp'.packet.length = pp.packet.length) := by
  unfold rrcountInc at h
  obtain ⟨n, _, h⟩ := bind_eq_ok.1 h
  split at h
  · cases h; exact .inl ⟨rfl, rfl⟩
  split at h
  · cases h; exact .inl ⟨rfl, rfl⟩
  obtain ⟨p, hw, h⟩ := bind_eq_ok.1 h
  cases h
  exact .inr ⟨rfl, writeAt_length hw⟩

theorem rrcountInc_full {pp : PP} {s : Section} {n : Nat} (hn : sectionCount pp.packet s = .ok n) (hfull : n ≥ 0xffff) :
    rrcountInc pp s = .ok (pp, some .invalidPacket) := by
  rw [rrcountInc, hn, bind_ok, if_pos hfull]
  split <;> rfl

theorem uncompress_bytes {p : Bytes} {v : View} (h : parse p = .ok v) {L : C03.Layout p} (o : C05.Output p L) :
    uncompress p = .ok o.bytes := by
  have := C05.uncompress_any h 12 L o
  rw [C05.carried_question] at this
  unfold uncompress
  simp only [DNS_HEADER_SIZE, this, bind_ok, pure_eq]

theorem recompute_fresh {p : Bytes} {v : View} (h : parse p = .ok v) (pp : PP) (hpk : pp.packet = p)
    (hv : pp.ednsCount = v.ednsCount ∧ pp.extRcode = v.extRcode ∧ pp.ednsVersion = v.ednsVersion ∧ pp.extFlags = v.extFlags)
    (hmc : pp.maybeCompressed = true) {L : C03.Layout p} (o : C05.Output p L) :
    ∃ v2, parse o.bytes = .ok v2 ∧
      pp.recompute = .ok (pp.rebased o.bytes v2, none) := by
  obtain ⟨v2, h2⟩ := C02.wf_accepted _ (C05.output_layout h o).1
  obtain ⟨c1, c2, c3, c4, _⟩ := edns_fields_preserved h o h2
  refine ⟨v2, h2, ?_⟩
  unfold PP.recompute
  simp only [hmc, Bool.not_true, Bool.false_eq_true, if_false, hpk, uncompress_bytes h o, h2]
  rw [c1, c2, c3, c4, ← hv.1, ← hv.2.1, ← hv.2.2.1, ← hv.2.2.2]
  simp only [bne_self_eq_false, Bool.or_self, Bool.false_eq_true, if_false, pure_eq, PP.rebased]

/-- `recompute` once the bytes are already the decompressed ones (`insert_rr`, and the decompress-first step of
`set_raw_name` / `delete`): decompression is a fixed point there -/
theorem recompute_decompressed {p : Bytes} {v : View} (h : parse p = .ok v) (pp : PP)
    (hv : pp.ednsCount = v.ednsCount ∧ pp.extRcode = v.extRcode ∧ pp.ednsVersion = v.ednsVersion ∧ pp.extFlags = v.extFlags)
    (hmc : pp.maybeCompressed = true) {L : C03.Layout p} (o : C05.Output p L) :
    ∃ v2, parse o.bytes = .ok v2 ∧ ({ pp with packet := o.bytes } : PP).recompute = .ok (pp.rebased o.bytes v2, none) := by
  obtain ⟨v2, h2⟩ := C02.wf_accepted _ (C05.output_layout h o).1
  obtain ⟨L2, o2, hun2⟩ := C05.decompress_ok h2
  have hob : o2.bytes = o.bytes := Res.ok.inj (hun2.symm.trans (C05.decompress_fixed_point h (uncompress_bytes h o)))
  obtain ⟨c1, c2, c3, c4, _⟩ := edns_fields_preserved h o h2
  obtain ⟨v3, h3, hrec⟩ := recompute_fresh h2 ({ pp with packet := o.bytes } : PP) rfl
    ⟨hv.1.trans c1.symm, hv.2.1.trans c2.symm, hv.2.2.1.trans c3.symm, hv.2.2.2.trans c4.symm⟩ hmc o2
  rw [hob] at h3 hrec
  obtain rfl : v3 = v2 := Res.ok.inj (h3.symm.trans h2)
  exact ⟨v3, h2, hrec⟩

theorem PlainObj.insertionOffset {pp : PP} (P : PlainObj pp) (sec : Section) (hs : sec.isRec = true) (x : Bytes)
    (hx : x.length = pp.packet.length) :
    Dns.insertionOffset { pp with packet := x } sec = .ok (P.start sec + (P.lst sec).flatten.length) := by
  have hl := P.len
  have hz : ∀ l : List Bytes, ¬ l.length > 0 → l.flatten.length = 0 := fun l h => by
    rw [List.length_eq_zero_iff.1 (Nat.eq_zero_of_not_pos h)]; rfl
  rcases Section.isRec_cases hs with rfl | rfl | rfl
  · simp only [Dns.insertionOffset, P.on, P.oR, pure_eq, ok.injEq, PlainObj.start, PlainObj.lst, hx]
    by_cases hn : P.N.length > 0
    · rw [if_pos hn]; rfl
    · have := hz _ hn
      by_cases hr : P.R.length > 0
      · rw [if_neg hn, if_pos hr]; show _ + _ = _; omega
      · have := hz _ hr
        rw [if_neg hn, if_neg hr]; show pp.packet.length = _; omega
  · simp only [Dns.insertionOffset, P.oR, pure_eq, ok.injEq, PlainObj.start, PlainObj.lst, hx]
    by_cases hr : P.R.length > 0
    · rw [if_pos hr]; rfl
    · have := hz _ hr
      rw [if_neg hr]; show pp.packet.length = _; omega
  · simp only [Dns.insertionOffset, pure_eq, ok.injEq, PlainObj.start, PlainObj.lst, hx]
    omega

/-- `rrcount_inc` has rewritten the header before `insertion_offset` is asked, hence `hio` for any packet of the same
length.  The record equation in the conclusion says that `pp'` differs from `pp` in the fields named only -/
theorem insertRR_run (pp : PP) (sect : Section) (hs : sect.isRec = true) (rr : Bytes) {hdr rest : Bytes}
    (hmc : pp.maybeCompressed = false) (hpk : pp.packet = hdr ++ rest) (hh : hdr.length = 12)
    (hsize : pp.packet.length + rr.length ≤ 8192) (hlt : get16 hdr (sectionCountOffset sect) < 65535) {io : Nat}
    (hio : ∀ x : Bytes, x.length = pp.packet.length → insertionOffset { pp with packet := x } sect = .ok io)
    (hle : io ≤ pp.packet.length) :
    ∃ hdr' : Bytes, hdr'.length = 12 ∧ get16 hdr' (sectionCountOffset sect) = get16 hdr (sectionCountOffset sect) + 1 ∧
      (∀ k, (k + 1 < sectionCountOffset sect ∨ sectionCountOffset sect + 1 < k) → get16 hdr' k = get16 hdr k) ∧
      ∃ pp' : PP, insertRR pp sect rr = .ok (pp', none) ∧
        pp'.packet = (hdr' ++ rest).take io ++ rr ++ (hdr' ++ rest).drop io ∧
        pp' = { pp with packet := pp'.packet, offsetAnswers := pp'.offsetAnswers, offsetNameservers := pp'.offsetNameservers,
                        offsetAdditional := pp'.offsetAdditional,
                        offsetEdns := if sect = .additional then pp.offsetEdns else pp.offsetEdns.map (· + rr.length) } ∧
        ∀ s, s.isRec = true → pp'.secOff s = if s = sect then (pp.secOff s).or (some io)
          else if sect.before s then (pp.secOff s).map (· + rr.length) else pp.secOff s := by
  obtain ⟨hdr', hinc, hh', hg, hgo⟩ := rrcountInc_ok pp sect hs hpk hh hlt
  have hlen : (hdr' ++ rest).length = pp.packet.length := by rw [hpk, List.length_append, List.length_append, hh, hh']
  have hbig : ¬ (pp.packet.length + rr.length > DNS_MAX_UNCOMPRESSED_SIZE) := Nat.not_lt.2 hsize
  have hfit : ¬ (io > (hdr' ++ rest).length) := by rw [hlen]; exact Nat.not_lt.2 hle
  refine ⟨hdr', hh', hg, hgo, ?_⟩
  have hmc' : ¬ pp.maybeCompressed = true := by rw [hmc]; exact Bool.false_ne_true
  unfold insertRR
  rw [if_neg hmc']
  simp only [Bool.false_eq_true, if_false, pure_eq, bind_ok, Option.isSome_none, hbig, hinc, hio _ hlen, hfit]
  rcases Section.isRec_cases hs with rfl | rfl | rfl <;>
    exact ⟨_, rfl, rfl, rfl, fun s hs' => by rcases Section.isRec_cases hs' with rfl | rfl | rfl <;> rfl⟩

theorem PlainObj.insert_at {pp : PP} (P : PlainObj pp) (sec : Section) (hs : sec.isRec = true) (rr : Bytes)
    (hpc : PieceOK sec rr (P.fout sec) (P.fout sec)) (hsize : pp.packet.length + rr.length ≤ 8192)
    (hcount : (P.lst sec).length < 65535) (hqr : sec ≠ .additional → get16 P.hdr 2 / 32768 % 2 = 1) :
    ∃ (pp' : PP) (P' : PlainObj pp'), insertRR pp sec rr = .ok (pp', none) ∧
      P'.lst sec = P.lst sec ++ [rr] ∧ (∀ s, s ≠ sec → P'.lst s = P.lst s) ∧ P'.qls = P.qls ∧ P'.q4 = P.q4 ∧
      (∀ k, (k + 1 < sectionCountOffset sec ∨ sectionCountOffset sec + 1 < k) → get16 P'.hdr k = get16 P.hdr k) ∧
      pp' = { pp with packet := pp'.packet, offsetAnswers := pp'.offsetAnswers, offsetNameservers := pp'.offsetNameservers,
                      offsetAdditional := pp'.offsetAdditional,
                      offsetEdns := if sec = .additional then pp.offsetEdns else pp.offsetEdns.map (· + rr.length) } := by
  have hb := P.bytes_at sec hs
  have hpl := P.pre_length sec hs
  have hlen : pp.packet.length = P.start sec + (P.lst sec).flatten.length + (P.post sec).length := by
    rw [hb]; simp only [List.length_append, P.hh]; omega
  rw [List.append_assoc, List.append_assoc] at hb
  obtain ⟨hdr', hh', hg, hgo, pp', hrun, hpk', hrest, hoff⟩ := insertRR_run pp sec hs rr P.mc hb P.hh hsize
    (by rw [P.count sec hs]; exact hcount) (P.insertionOffset sec hs) (by omega)
  have hio : P.start sec + (P.lst sec).flatten.length = (hdr' ++ P.pre sec ++ (P.lst sec).flatten).length := by
    simp only [List.length_append, hh']; omega
  have hpk2 : pp'.packet = hdr' ++ P.pre sec ++ (P.lst sec ++ [rr]).flatten ++ P.post sec := by
    rw [hpk', hio, ← List.append_assoc, ← List.append_assoc, splice_mid]
    simp only [List.flatten_append, List.flatten_cons, List.flatten_nil, List.append_nil, List.append_assoc]
  have hpos : (P.lst sec ++ [rr]).length > 0 := by rw [List.length_append]; exact Nat.succ_pos _
  obtain ⟨P', f1, f2, f3, f4, f5⟩ := P.update sec hs ((P.pieces sec hs).append (Pieces.cons hpc (Pieces.nil _))) hh'
    (by rw [hg, P.count sec hs, List.length_append]; rfl) hgo
    (fun h0 hna => by have := hqr hna; omega) hpk2 (by rw [hrest]) (by rw [hrest]; exact P.mc)
    (by
      rw [hoff sec hs, if_pos rfl, if_pos hpos, P.secOff sec hs]
      by_cases h0 : (P.lst sec).length > 0
      · rw [if_pos h0]; rfl
      · rw [if_neg h0, List.length_eq_zero_iff.1 (Nat.eq_zero_of_not_pos h0)]; rfl)
    (f := (· + rr.length))
    (fun x _ => by
      simp only [List.flatten_append, List.flatten_cons, List.flatten_nil, List.append_nil, List.length_append]
      omega)
    (fun s hs' hne => by rw [hoff s hs', if_neg hne])
  exact ⟨pp', P', hrun, f1, f2, f3, f4, fun k hk => by rw [f5]; exact hgo k hk, hrest⟩

/-- the `if self.maybe_compressed` block of `insert_rr` makes a freshly parsed object a plain one -/
theorem insert_parsed_step {p : Bytes} {v : View} (h : parse p = .ok v) (sect : Section) (rr : Bytes) :
    ∃ (pp2 : PP) (L : C03.Layout p) (o : C05.Output p L) (P : PlainObj pp2),
      P.A = o.pa ∧ P.N = o.pn ∧ P.R = o.pr ∧ P.hdr = p.take 12 ∧ pp2.packet = o.bytes ∧
      insertRR (PP.ofView p v) sect rr = insertRR pp2 sect rr := by
  obtain ⟨L, o, hun⟩ := C05.decompress_ok h
  obtain ⟨v2, h2, hrec⟩ := recompute_decompressed h (PP.ofView p v) ⟨rfl, rfl, rfl, rfl⟩ rfl o
  let pp1 : PP := { PP.ofView p v with packet := o.bytes }
  obtain ⟨P, hA, hN, hR, hH, _⟩ := plainObj_of_output h o h2 pp1
  refine ⟨pp1.rebased o.bytes v2, L, o, P, hA, hN, hR, hH, rfl, ?_⟩
  -- both sides run the same code after the decompress-first block
  have hmc0 : (PP.ofView p v).maybeCompressed = true := rfl
  have hp0 : (PP.ofView p v).packet = p := rfl
  have hmc2 : (pp1.rebased o.bytes v2).maybeCompressed = false := rfl
  unfold insertRR
  simp only [hmc0, if_true, hp0, hun, hmc2, Bool.false_eq_true, if_false]
  show (do let r ← (do let (pp, e) ← pp1.recompute; pure (pp, e)); _) = _
  rw [hrec]
  rfl

end Dns
