/-
  Runs of canonical records: layouts and canonical forms are determined by the bytes, the type of a record by its
  canonical form; where a reference offset lands.
-/
import DnsModel.Lemmas.Canon
namespace Dns
open Res

/-- start of each piece when the pieces are laid out from `base` -/
def starts : Nat → List Bytes → List Nat
  | _, [] => []
  | b, pc :: ps => b :: starts (b + pc.length) ps

/-- every name in the record is written out in full -/
def SelfCanon (u : Bytes) (r : RecPos) : Prop := RecCanon u r ((u.drop r.off).take (r.next - r.off))

theorem RdCanon.functional {p : Bytes} {t l rs : Nat} {rd rd' : Bytes} (h : RdCanon p t l rs rd) (h' : RdCanon p t l rs rd') :
    rd = rd' := by
  rcases rdClass t with ht | rfl | rfl | ⟨h1, h2, h3⟩
  · obtain ⟨ls, hv, rfl⟩ := (RdCanon.name_iff ht).1 h
    obtain ⟨ls', hv', rfl⟩ := (RdCanon.name_iff ht).1 h'
    rw [(validName_functional hv hv').1]
  · obtain ⟨ls, hv, rfl⟩ := RdCanon.mx_iff.1 h
    obtain ⟨ls', hv', rfl⟩ := RdCanon.mx_iff.1 h'
    rw [(validName_functional hv hv').1]
  · obtain ⟨l1, l2, e1, hv1, hv2, rfl⟩ := RdCanon.soa_iff.1 h
    obtain ⟨l1', l2', e1', hv1', hv2', rfl⟩ := RdCanon.soa_iff.1 h'
    obtain ⟨rfl, rfl⟩ := validName_functional hv1 hv1'
    rw [(validName_functional hv2 hv2').1]
  · rw [(RdCanon.verbatim_iff h1 h2 h3).1 h, (RdCanon.verbatim_iff h1 h2 h3).1 h']

theorem RecCanon.functional {p : Bytes} {r : RecPos} {a b : Bytes} (h : RecCanon p r a) (h' : RecCanon p r b) : a = b := by
  obtain ⟨o, rd, hv, hrd, rfl⟩ := h
  obtain ⟨o', rd', hv', hrd', rfl⟩ := h'
  rw [(validName_functional hv hv').1, hrd.functional hrd']

theorem CanonRun.functional {p : Bytes} {l : List RecPos} {ps ps' : List Bytes} (h : CanonRun p l ps) (h' : CanonRun p l ps') :
    ps = ps' := by
  induction h generalizing ps' with
  | nil => cases h'; rfl
  | cons hr _ ih =>
    cases h' with
    | cons hr' hrest' => rw [hr.functional hr', ih hrest']

theorem CanonRun.length {p : Bytes} {l : List RecPos} {ps : List Bytes} (h : CanonRun p l ps) : ps.length = l.length := by
  induction h with
  | nil => rfl
  | cons _ _ ih => simp [ih]

theorem QCanon.functional {p : Bytes} {qe : Nat} {a b : Bytes} (h : QCanon p qe a) (h' : QCanon p qe b) : a = b := by
  obtain ⟨ls, hv, rfl⟩ := h
  obtain ⟨ls', hv', rfl⟩ := h'
  rw [(validName_functional hv hv').1]

theorem canon_split {o1 o2 : List (List UInt8)} {f1 f2 rd1 rd2 : Bytes} (h1 : ∀ l ∈ o1, okLabel l) (h2 : ∀ l ∈ o2, okLabel l)
    (hf1 : f1.length = 8) (hf2 : f2.length = 8)
    (h : (encLabels o1 ++ [0]) ++ f1 ++ put16 rd1.length ++ rd1 = (encLabels o2 ++ [0]) ++ f2 ++ put16 rd2.length ++ rd2) :
    o1 = o2 ∧ f1 = f2 ∧ rd1 = rd2 := by
  simp only [List.append_assoc, List.singleton_append] at h
  obtain rfl := encLabels_inj h1 h2 _ _ h
  obtain ⟨rfl, e⟩ := List.append_inj (List.cons.inj (List.append_cancel_left h)).2 (hf1.trans hf2.symm)
  exact ⟨rfl, rfl, (List.append_inj e rfl).2⟩

theorem RecCanon.type_eq {p u : Bytes} {r r' : RecPos} {rc : Bytes} (h : RecCanon p r rc) (h' : RecCanon u r' rc)
    (hp : r.ne + 8 ≤ p.length) (hu : r'.ne + 8 ≤ u.length) : get16 u r'.ne = get16 p r.ne := by
  obtain ⟨o, rd, hv, _, rfl⟩ := h
  obtain ⟨o', rd', hv', _, he⟩ := h'
  exact take8_get16 (canon_split hv'.2.1.okLabels hv.2.1.okLabels (length_take_drop hu) (length_take_drop hp) he.symm).2.1
    hu hp

theorem CanonRun.types_eq {p u : Bytes} {sec : Section} {l l' : List RecPos} {ps : List Bytes} {off off' e e' : Nat}
    {ob ob' oe oe' : Bool} (hl : RRsL p sec l off ob e oe) (hl' : RRsL u sec l' off' ob' e' oe')
    (h : CanonRun p l ps) (h' : CanonRun u l' ps) :
    l'.map (fun r => get16 u r.ne) = l.map (fun r => get16 p r.ne) := by
  induction hl generalizing l' ps off' ob' with
  | nil => cases h; cases h'; rw [List.map_nil, List.map_nil]
  | cons hp _ ih =>
    cases h with
    | cons hr hrest =>
      cases h' with
      | cons hr' hrest' =>
        obtain ⟨_, _, hu, hrestu⟩ := hl'.cons_inv
        rw [List.map_cons, List.map_cons, hr.type_eq hr' (by have := hp.2.1; omega) (by have := hu.2.1; omega),
          ih hrestu hrest hrest']

theorem carry_miss (ref : Nat) : ∀ (l : List RecPos) (ps : List Bytes) (base : Nat) (prev : Option Nat),
    (∀ r ∈ l, r.off ≠ ref) → carry ref l ps base prev = prev := by
  intro l
  induction l with
  | nil => intro ps base prev _; cases ps <;> rfl
  | cons r l ih =>
    intro ps base prev h
    cases ps with
    | nil => rfl
    | cons pc ps =>
      simp only [carry]
      have : ¬ (ref = r.off) := fun e => h r (by simp) e.symm
      simp only [this, if_false]
      exact ih ps _ prev (fun x hx => h x (by simp [hx]))

theorem carry_hit (l1 : List RecPos) (r : RecPos) (l2 : List RecPos) (ps1 : List Bytes) (pc : Bytes) (ps2 : List Bytes)
    (base : Nat) (prev : Option Nat) (h1 : l1.length = ps1.length) (h2 : ∀ r' ∈ l2, r'.off ≠ r.off) :
    carry r.off (l1 ++ r :: l2) (ps1 ++ pc :: ps2) base prev = some (base + ps1.flatten.length) := by
  induction l1 generalizing ps1 base prev with
  | nil =>
    cases ps1 with
    | nil =>
      simp only [List.nil_append, carry, if_true]
      rw [carry_miss _ _ _ _ _ h2]
      simp
    | cons _ _ => simp at h1
  | cons x l1 ih =>
    cases ps1 with
    | nil => simp at h1
    | cons y ps1 =>
      simp only [List.cons_append, carry]
      rw [ih ps1 _ _ (by simpa using h1)]
      simp; omega

theorem starts_at (base : Nat) (ps1 : List Bytes) (pc : Bytes) (ps2 : List Bytes) :
    (starts base (ps1 ++ pc :: ps2))[ps1.length]? = some (base + ps1.flatten.length) := by
  induction ps1 generalizing base with
  | nil => simp [starts]
  | cons y ps1 ih =>
    simp only [List.cons_append, starts, List.length_cons, List.getElem?_cons_succ]
    rw [ih]
    simp; omega

theorem RRsL.split {p : Bytes} {sec : Section} {l1 l2 : List RecPos} {off e : Nat} {ob oe : Bool}
    (h : RRsL p sec (l1 ++ l2) off ob e oe) : ∃ mid om, RRsL p sec l1 off ob mid om ∧ RRsL p sec l2 mid om e oe := by
  induction l1 generalizing off ob with
  | nil => exact ⟨off, ob, RRsL.nil _ _, h⟩
  | cons r l1 ih =>
    obtain ⟨hoff, om, hr, hrest⟩ := h.cons_inv
    obtain ⟨mid, om', h1, h2⟩ := ih hrest
    subst hoff
    exact ⟨mid, om', RRsL.cons hr h1, h2⟩

theorem RRsL.later_ne {p : Bytes} {sec : Section} {l1 l2 : List RecPos} {r : RecPos} {off e : Nat} {ob oe : Bool}
    (h : RRsL p sec (l1 ++ r :: l2) off ob e oe) : ∀ r' ∈ l2, r'.off ≠ r.off := by
  obtain ⟨mid, om, _, h2⟩ := h.split
  obtain ⟨_, om', hr, hrest⟩ := h2.cons_inv
  obtain ⟨_, hb⟩ := hrest.bounds
  obtain ⟨⟨ls, hv⟩, _, hnext, _, _⟩ := hr
  have := hv.2.1.lt
  intro r' hr'
  have := (hb r' hr').1
  omega

theorem RRsL.carry_outside {p : Bytes} {sec : Section} {l : List RecPos} {off e : Nat} {ob oe : Bool}
    (h : RRsL p sec l off ob e oe) {ref : Nat} (hout : ref < off ∨ e ≤ ref) (ps : List Bytes) (base : Nat)
    (prev : Option Nat) : carry ref l ps base prev = prev :=
  carry_miss ref l ps base prev fun r hr => by have := h.bounds.2 r hr; omega

theorem RRsL.carry_at {p : Bytes} {sec : Section} {l1 l2 : List RecPos} {r : RecPos} {off e : Nat} {ob oe : Bool}
    (h : RRsL p sec (l1 ++ r :: l2) off ob e oe) (ps1 : List Bytes) (pc : Bytes) (ps2 : List Bytes)
    (hlen : l1.length = ps1.length) (base : Nat) (prev : Option Nat) :
    carry r.off (l1 ++ r :: l2) (ps1 ++ pc :: ps2) base prev = some (base + ps1.flatten.length) :=
  carry_hit l1 r l2 ps1 pc ps2 base prev hlen h.later_ne

theorem RRsL.to_RRs {p : Bytes} {sec : Section} {l : List RecPos} {off e : Nat} {ob oe : Bool}
    (h : RRsL p sec l off ob e oe) : RRs p sec l.length off ob e oe := by
  induction h with
  | nil => exact RRs.nil _ _
  | cons hr _ ih => exact RRs.cons ((RRAt_iff_pos _ _ _ _ _ _).2 ⟨_, hr⟩) ih

end Dns
