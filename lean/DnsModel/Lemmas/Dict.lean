/-
  The suffix dictionary of `compress()`: what its entries promise about the output
  built so far, and how `find`, `insert` and `commit` keep that promise.
-/
import DnsModel.Lemmas.CaseFold
import DnsModel.Lemmas.Canon
namespace Dns
open Res

/-- a committed entry: its suffix is a pointer-free name `els`, and at `e.offset` the output holds a name that
decodes, with exactly `e.depth` indirections, to labels equal to `els` up to case -/
def EntryOK (out : Bytes) (e : Suffix) : Prop :=
  ∃ (els els' : List (List UInt8)) (ePos Po Eo : Nat),
    e.suffix.take e.len = encLabels els ++ [0] ∧ (∀ l ∈ els, okLabel l) ∧ lsCi els' els ∧
    NameAt out Eo Po e.offset e.depth els' ePos ∧ Po ≤ e.offset ∧ Eo ≤ out.length ∧
    e.offset < 16384 ∧ e.offset < out.length ∧ byteAt out e.offset ≠ some 0

theorem EntryOK.append {out : Bytes} {e : Suffix} (h : EntryOK out e) (q : Bytes) : EntryOK (out ++ q) e := by
  obtain ⟨els, els', ePos, Po, Eo, h1, h2, h3, h4, h5, h6, h7, h8, h9⟩ := h
  exact ⟨els, els', ePos, Po, Eo, h1, h2, h3, h4.append (by omega), h5, by simp; omega, h7, by simp; omega,
    byteAt_ne_append_left h8 h9⟩

/-- the dictionary while the name `ls` is being emitted from `out0.length`; `pd = none`: the entries of this name
are still pending.  Nothing says that a live slot keeps its entry (when the ring index wraps from 32 to 1 a store
overwrites one): the clause speaks only of the entries that are there. -/
def DictState (dict : SuffixDict) (out0 : Bytes) (ls : List (List UInt8)) (k : Nat) (pd : Option Nat) : Prop :=
  dict.suffixes.length = 32 ∧ dict.index < 32 ∧ dict.count ≤ 32 ∧ dict.index ≤ dict.count ∧
  ∀ i e, i < dict.count → dict.suffixes[i]? = some e →
    (e.depth ≠ DEPTH_PENDING ∧ EntryOK out0 e) ∨
    (∃ j, j < k ∧ j < ls.length ∧ e.offset = out0.length + labSum (ls.take j) ∧
      e.suffix.take e.len = encLabels (ls.drop j) ++ [0] ∧ e.offset < 16384 ∧
      e.depth = pd.getD DEPTH_PENDING)

theorem DictState.weaken {dict : SuffixDict} {out0 : Bytes} {ls : List (List UInt8)} {k k' : Nat} {pd : Option Nat}
    (h : DictState dict out0 ls k pd) (hk : ∀ j, j < k → j < ls.length → j < k') : DictState dict out0 ls k' pd := by
  obtain ⟨h1, h2, h3, h4, h5⟩ := h
  refine ⟨h1, h2, h3, h4, fun i e hi he => ?_⟩
  rcases h5 i e hi he with h | ⟨j, hj, hjl, rest⟩
  · exact Or.inl h
  · exact Or.inr ⟨j, hk j hj hjl, hjl, rest⟩

theorem DictState.mono {dict : SuffixDict} {out0 : Bytes} {ls : List (List UInt8)} {k k' : Nat} {pd : Option Nat}
    (h : DictState dict out0 ls k pd) (hk : k ≤ k') : DictState dict out0 ls k' pd :=
  h.weaken fun _ hj _ => Nat.lt_of_lt_of_le hj hk

theorem DictState.empty (out0 : Bytes) (ls : List (List UInt8)) : DictState {} out0 ls 0 none := by
  refine ⟨by simp, by decide, by decide, by decide, ?_⟩
  intro i e hi
  simp at hi

/-- the dictionary between two names -/
def DictInv (dict : SuffixDict) (out : Bytes) : Prop :=
  dict.suffixes.length = 32 ∧ dict.index < 32 ∧ dict.count ≤ 32 ∧ dict.index ≤ dict.count ∧
  ∀ i e, i < dict.count → dict.suffixes[i]? = some e → e.depth ≠ DEPTH_PENDING ∧ EntryOK out e

theorem DictInv.empty (out : Bytes) : DictInv {} out :=
  ⟨rfl, by decide, by decide, by decide, fun i e hi => absurd hi (Nat.not_lt_zero i)⟩

theorem DictInv.start {dict : SuffixDict} {out : Bytes} (h : DictInv dict out) (ls : List (List UInt8)) :
    DictState dict out ls 0 none := by
  obtain ⟨h1, h2, h3, h4, h5⟩ := h
  exact ⟨h1, h2, h3, h4, fun i e hi he => Or.inl (h5 i e hi he)⟩

theorem DictInv.append {dict : SuffixDict} {out : Bytes} (h : DictInv dict out) (q : Bytes) : DictInv dict (out ++ q) := by
  obtain ⟨h1, h2, h3, h4, h5⟩ := h
  exact ⟨h1, h2, h3, h4, fun i e hi he => ⟨(h5 i e hi he).1, (h5 i e hi he).2.append q⟩⟩

theorem find_some {dict : SuffixDict} {suffix : Bytes} {cand : Suffix} (h : dict.find suffix = some cand) :
    (∃ i, i < dict.count ∧ dict.suffixes[i]? = some cand) ∧ cand.depth < 16 ∧
      rawNamesEqIgnoreCase suffix (cand.suffix.take cand.len) = true := by
  unfold SuffixDict.find at h
  have hp := List.find?_some h
  have hm := List.mem_of_find?_eq_some h
  simp only [Bool.and_eq_true, decide_eq_true_eq] at hp
  consts
  refine ⟨?_, hp.1.1, hp.2⟩
  obtain ⟨i, hi, hget⟩ := List.getElem_of_mem hm
  simp at hi
  refine ⟨i, by omega, ?_⟩
  rw [List.getElem_take] at hget
  rw [List.getElem?_eq_getElem (by omega), hget]

theorem commit_get (d : SuffixDict) (depth : Nat) (i : Nat) :
    (d.commit depth).suffixes[i]? = (d.suffixes[i]?).map (fun s =>
      if i < d.count && s.depth == DEPTH_PENDING then { s with depth := depth } else s) := by
  unfold SuffixDict.commit
  simp [List.getElem?_mapIdx]

theorem DictState.commit {dict : SuffixDict} {out0 : Bytes} {ls : List (List UInt8)} {k : Nat}
    (h : DictState dict out0 ls k none) (d : Nat) (hd : d ≠ DEPTH_PENDING) :
    DictState (dict.commit d) out0 ls k (some d) := by
  obtain ⟨h1, h2, h3, h4, h5⟩ := h
  refine ⟨by simp [SuffixDict.commit, h1], by simpa [SuffixDict.commit] using h2,
    by simpa [SuffixDict.commit] using h3, by simpa [SuffixDict.commit] using h4, ?_⟩
  intro i e hi he
  have hc : (dict.commit d).count = dict.count := rfl
  rw [hc] at hi
  rw [commit_get] at he
  cases hs : dict.suffixes[i]? with
  | none => rw [hs] at he; simp at he
  | some s =>
    rw [hs] at he
    simp only [Option.map_some, Option.some.injEq] at he
    rcases h5 i s hi hs with ⟨hn, hok⟩ | ⟨j, hj1, hj2, ho, hsuf, hlt, hdep⟩
    · have : (s.depth == DEPTH_PENDING) = false := by simp [hn]
      simp only [this, Bool.and_false, Bool.false_eq_true, if_false] at he
      subst he
      exact Or.inl ⟨hn, hok⟩
    · simp only [Option.getD_none] at hdep
      have : (s.depth == DEPTH_PENDING) = true := by simp [hdep]
      simp only [hi, decide_true, this, Bool.and_self, if_true] at he
      subst he
      exact Or.inr ⟨j, hj1, hj2, ho, hsuf, hlt, rfl⟩

theorem rawNameLen_enc (l : List (List UInt8)) (hok : ∀ x ∈ l, okLabel x) :
    rawNameLen (encLabels l ++ [0]) = .ok (encLabels l ++ [0]).length := by
  have := rawNameLen_nameAt (NameAt.emit_root [] l hok) (Nat.zero_le _)
  rwa [List.nil_append, List.length_nil, Nat.zero_add, Nat.sub_zero, List.drop_zero, ← encLen_eq] at this

/-- holds of the empty dictionary and of what the first name of a packet makes of it (`copyName_first`) -/
def NoCommitted (dict : SuffixDict) : Prop :=
  ∀ i e, i < dict.count → dict.suffixes[i]? = some e → e.depth = DEPTH_PENDING

theorem insert_skip {d : SuffixDict} {s : Bytes} {o : Nat} (h : o ≥ 16384 ∨ s.length ≤ 2 ∨ s.length > MAX_SUFFIX_LEN) :
    d.insert s o = .ok (d, none) := by
  unfold SuffixDict.insert
  by_cases ho : o ≥ 16384
  · rw [if_pos ho]; rfl
  · rw [if_neg ho]
    dsimp only
    rw [if_pos]
    · rfl
    · rw [Bool.or_eq_true, decide_eq_true_eq, decide_eq_true_eq]
      exact h.resolve_left ho

theorem insert_live {d : SuffixDict} {s : Bytes} {o : Nat} (h : ¬ (o ≥ 16384 ∨ s.length ≤ 2 ∨ s.length > MAX_SUFFIX_LEN))
    (hraw : rawNameLen s = .ok s.length) (hidx : d.index < d.suffixes.length) :
    d.insert s o = match d.find s with
      | some cand => .ok (d.commit (cand.depth + 1), some cand.offset)
      | none => .ok (⟨max (d.index + 1) d.count, if d.index + 1 == MAX_SUFFIXES then 1 else d.index + 1,
          d.suffixes.set d.index ⟨o, s.length, DEPTH_PENDING, s⟩⟩, none) := by
  unfold SuffixDict.insert
  rw [if_neg (fun ho => h (Or.inl ho))]
  dsimp only
  rw [if_neg]
  · cases d.find s with
    | some cand => rfl
    | none =>
      have hsl : slice s 0 s.length = .ok s := by
        rw [slice_ok ⟨Nat.zero_le _, Nat.le_refl _⟩, List.drop_zero, Nat.sub_zero, List.take_length]
      simp only [hraw, bind_ok, assert, beq_self_eq_true, if_true, hsl, decide_eq_true hidx, pure_eq]
  · rw [Bool.or_eq_true, decide_eq_true_eq, decide_eq_true_eq]
    exact fun h' => h (Or.inr h')

/-- `o` can be pointed to in `out`: a name decodes there to `cls` with `d` indirections (`Po`, `Eo`: low bound and
barrier of the `NameAt` derivation), the offset fits fourteen bits and the byte there is not the root -/
def PtrTarget (out : Bytes) (o d : Nat) (cls : List (List UInt8)) : Prop :=
  ∃ ePos Po Eo, NameAt out Eo Po o d cls ePos ∧ Po ≤ o ∧ Eo ≤ out.length ∧ o < 16384 ∧ o < out.length ∧
    byteAt out o ≠ some 0

/-- `insert` at label boundary `k` of the name being emitted.  A found suffix has more than two bytes
(`2 < …`), so the two pointer bytes never lengthen a name. -/
theorem insert_cases {dict : SuffixDict} {out0 : Bytes} {ls : List (List UInt8)} {k : Nat}
    (h : DictState dict out0 ls k none) (hok : ∀ l ∈ ls, okLabel l) :
    ∃ dict' hit, dict.insert (encLabels (ls.drop k) ++ [0]) (out0.length + labSum (ls.take k)) = .ok (dict', hit) ∧
      ((hit = none ∧ DictState dict' out0 ls (k + 1) none ∧ (NoCommitted dict → NoCommitted dict')) ∨
       (∃ o cls' d, hit = some o ∧ lsCi cls' (ls.drop k) ∧ PtrTarget out0 o d cls' ∧ d < 16 ∧
          dict' = dict.commit (d + 1) ∧ 2 < labSum (ls.drop k) + 1 ∧ ¬ NoCommitted dict)) := by
  have hokd : ∀ l ∈ ls.drop k, okLabel l := fun l hl => hok l (List.mem_of_mem_drop hl)
  by_cases hskip : out0.length + labSum (ls.take k) ≥ 16384 ∨ (encLabels (ls.drop k) ++ [0]).length ≤ 2 ∨
      (encLabels (ls.drop k) ++ [0]).length > MAX_SUFFIX_LEN
  · exact ⟨dict, none, insert_skip hskip, Or.inl ⟨rfl, h.mono (Nat.le_succ k), id⟩⟩
  obtain ⟨h1, h2, h3, h4, h5⟩ := h
  rw [insert_live hskip (rawNameLen_enc _ hokd) (h1 ▸ h2)]
  rw [encLen_eq] at hskip
  cases hf : dict.find (encLabels (ls.drop k) ++ [0]) with
  | some cand =>
    dsimp only
    obtain ⟨⟨i, hi, hget⟩, hd, heq⟩ := find_some hf
    rcases h5 i cand hi hget with ⟨hn, els, els', ePos, Po, Eo, e1, e2, e3, e4, e5, e6, e7, e8, e9⟩ | ⟨j, _, _, _, _, _, hdep⟩
    · rw [e1] at heq
      exact ⟨_, _, rfl, Or.inr ⟨cand.offset, els', cand.depth, rfl,
        e3.trans (eqLoop_sound (ls.drop k) els [] [] hokd e2 heq).symm, ⟨ePos, Po, Eo, e4, e5, e6, e7, e8, e9⟩, hd, rfl, by omega,
        fun hnc => hn (hnc i cand hi hget)⟩⟩
    · rw [hdep] at hd
      exact absurd hd (by decide)
  | none =>
    dsimp only
    have hklt : k < ls.length := by
      refine Nat.lt_of_not_le fun hc => hskip (Or.inr (Or.inl ?_))
      rw [List.drop_of_length_le hc]
      decide
    have hM : MAX_SUFFIXES = 32 := rfl
    refine ⟨_, none, rfl, Or.inl ⟨rfl, ⟨by rw [List.length_set]; exact h1, ?_, ?_, ?_, ?_⟩, ?_⟩⟩
    · show (if (dict.index + 1 == MAX_SUFFIXES) = true then 1 else dict.index + 1) < 32
      split
      · decide
      · rename_i hw
        rw [beq_iff_eq, hM] at hw
        omega
    · exact Nat.max_le.2 ⟨h2, h3⟩
    · show (if (dict.index + 1 == MAX_SUFFIXES) = true then 1 else dict.index + 1) ≤ max (dict.index + 1) dict.count
      split
      · exact Nat.le_trans (Nat.le_add_left 1 _) (Nat.le_max_left _ _)
      · exact Nat.le_max_left _ _
    · intro i e (hi : i < max (dict.index + 1) dict.count) he
      by_cases hii : i = dict.index
      · subst hii
        rw [List.getElem?_set_self (h1 ▸ h2), Option.some.injEq] at he
        subst he
        exact Or.inr ⟨k, Nat.lt_succ_self k, hklt, rfl, List.take_of_length_le (Nat.le_refl _),
          Nat.lt_of_not_le fun h => hskip (Or.inl h), rfl⟩
      · rw [List.getElem?_set_ne (Ne.symm hii)] at he
        rcases h5 i e (by omega) he with hc | ⟨j, hj, rest⟩
        · exact Or.inl hc
        · exact Or.inr ⟨j, Nat.lt_succ_of_lt hj, rest⟩
    · intro hnc i e (hi : i < max (dict.index + 1) dict.count) he
      by_cases hii : i = dict.index
      · subst hii
        rw [List.getElem?_set_self (h1 ▸ h2), Option.some.injEq] at he
        rw [← he]
      · rw [List.getElem?_set_ne (Ne.symm hii)] at he
        exact hnc i e (by omega) he

end Dns
