/-
  The list form of the policy that every later file uses (`RecPos`, `RRAtPos`, `RRsL`), `secInfo`, and the four
  walks: over a section with OPT included and with OPT skipped, over the EDNS options, and (C03) the question; they
  visit exactly the records of the list, in wire order.  `currentSection_eq` for the section accessor.
-/
import DnsModel.Lemmas.Decode
import DnsModel.Lemmas.ParseSpec
namespace Dns
open Res

/-- start, end of the owner name as written, end of the record -/
structure RecPos where
  off : Nat
  ne : Nat
  next : Nat
  deriving Repr, DecidableEq

/-- `RRAt` with the end of the owner name exposed -/
def RRAtPos (p : Bytes) (sec : Section) (r : RecPos) (ob oa : Bool) : Prop :=
  NameEnds p r.off r.ne ∧ r.ne + 10 ≤ p.length ∧
    r.next = r.ne + 10 + get16 p (r.ne + 8) ∧ r.next ≤ p.length ∧
    if get16 p r.ne = 41 then
      sec = .additional ∧ r.ne = r.off + 1 ∧ ob = false ∧ oa = true ∧ ∃ n, OptionsTile p (r.ne + 10) r.next n
    else RDataOK p (get16 p r.ne) (get16 p (r.ne + 8)) (r.ne + 10) ∧ oa = ob

theorem RRAt_iff_pos (p : Bytes) (sec : Section) (off : Nat) (ob : Bool) (next : Nat) (oa : Bool) :
    RRAt p sec off ob next oa ↔ ∃ ne, RRAtPos p sec ⟨off, ne, next⟩ ob oa :=
  Iff.rfl

/-- consecutive records with their positions -/
inductive RRsL (p : Bytes) (sec : Section) : List RecPos → Nat → Bool → Nat → Bool → Prop
  | nil (off : Nat) (o : Bool) : RRsL p sec [] off o off o
  | cons {r : RecPos} {l : List RecPos} {e : Nat} {ob om oe : Bool} :
      RRAtPos p sec r ob om → RRsL p sec l r.next om e oe → RRsL p sec (r :: l) r.off ob e oe

theorem RRs_to_list {p : Bytes} {sec : Section} {n off e : Nat} {ob oe : Bool} (h : RRs p sec n off ob e oe) :
    ∃ l, l.length = n ∧ RRsL p sec l off ob e oe := by
  induction h with
  | nil off o => exact ⟨[], rfl, RRsL.nil off o⟩
  | cons hr _ ih =>
    obtain ⟨l, hl, hrl⟩ := ih
    obtain ⟨ne, hpos⟩ := (RRAt_iff_pos _ _ _ _ _ _).1 hr
    exact ⟨⟨_, ne, _⟩ :: l, by simp [hl], RRsL.cons hpos hrl⟩

theorem skipRdata_eq {p : Bytes} {ne : Nat} (h : ne + 10 ≤ p.length) :
    skipRdata p ne = .ok (ne + 10 + get16 p (ne + 8)) := by
  unfold skipRdata
  consts
  rw [be16_ok (p := p) (i := ne + 8) (by omega)]
  simp [Nat.add_assoc]

theorem land_spec {p : Bytes} {sec : Section} {r : RecPos} {ob oa : Bool} (hr : RRAtPos p sec r ob oa)
    (c : Cursor) (hc : c.offsetNext = r.off) :
    Cursor.land p c = .ok { c with offset := some r.off, nameEnd := r.ne, offsetNext := r.next } := by
  obtain ⟨⟨ls, hv⟩, h10, hnext, _, _⟩ := hr
  unfold Cursor.land
  simp only [hc, skipName_valid hv.2.1 (by omega : r.ne < p.length), skipRdata_eq h10, bind_ok, pure_eq]
  simp [hnext]

/-- the cursors a walk yields -/
def collectWalk (pp : PP) (step : PP → Cursor → Res (Option Cursor)) : Nat → Cursor → Res (List Cursor)
  | 0, _ => .diverge
  | fuel+1, c =>
    match step pp c with
    | .ok none => .ok []
    | .ok (some c') => (collectWalk pp step fuel c').bind (fun l => .ok (c' :: l))
    | .err e => .err e
    | .panic => .panic
    | .diverge => .diverge

def posOf (c : Cursor) : Option RecPos := c.offset.map (fun o => ⟨o, c.nameEnd, c.offsetNext⟩)

theorem posOf_eq_some {c : Cursor} {r : RecPos} :
    posOf c = some r ↔ c.offset = some r.off ∧ c.nameEnd = r.ne ∧ c.offsetNext = r.next := by
  obtain ⟨off, ne, next⟩ := r
  cases ho : c.offset <;> simp [posOf, ho]

theorem collectWalk_nil {pp : PP} {step : PP → Cursor → Res (Option Cursor)} {c : Cursor} (fuel : Nat)
    (h : step pp c = .ok none) : collectWalk pp step (fuel + 1) c = .ok [] := by
  rw [collectWalk, h]

theorem collectWalk_cons {pp : PP} {step : PP → Cursor → Res (Option Cursor)} {c c' : Cursor} {fuel : Nat}
    {cs : List Cursor} (h : step pp c = .ok (some c')) (h' : collectWalk pp step fuel c' = .ok cs) :
    collectWalk pp step (fuel + 1) c = .ok (c' :: cs) := by
  rw [collectWalk, h]
  simp only [h', bind_def, bind_ok]

theorem collect_first_step {pp : PP} (step : PP → Cursor → Res (Option Cursor)) (c c0 : Cursor) (fuel : Nat)
    (h : step pp c = step pp c0) : collectWalk pp step (fuel + 1) c = collectWalk pp step (fuel + 1) c0 := by
  unfold collectWalk
  rw [h]

theorem collectWalk_succ_ok {pp : PP} {step : PP → Cursor → Res (Option Cursor)} {fuel : Nat} {c : Cursor}
    {cs : List Cursor} (h : collectWalk pp step (fuel + 1) c = .ok cs) :
    (step pp c = .ok none ∧ cs = []) ∨
      ∃ c' l, step pp c = .ok (some c') ∧ collectWalk pp step fuel c' = .ok l ∧ cs = c' :: l := by
  unfold collectWalk at h
  split at h
  next hs => exact .inl ⟨hs, (Res.ok.inj h).symm⟩
  next c' hs =>
    obtain ⟨l, hl, hcs⟩ := bind_eq_ok.1 h
    exact .inr ⟨c', l, hs, hl, (Res.ok.inj hcs).symm⟩
  all_goals cases h

theorem collectWalk_mono {pp : PP} {step : PP → Cursor → Res (Option Cursor)} :
    ∀ (fuel : Nat) (c : Cursor) (cs : List Cursor), collectWalk pp step fuel c = .ok cs →
      ∀ k, collectWalk pp step (fuel + k) c = .ok cs := by
  intro fuel
  induction fuel with
  | zero => intro c cs h; cases h
  | succ n ih =>
    intro c cs h k
    rw [Nat.add_right_comm, collectWalk]
    rcases collectWalk_succ_ok h with ⟨hs, rfl⟩ | ⟨c', l, hs, hl, rfl⟩
    · rw [hs]
    · rw [hs]
      show (collectWalk pp step (n + k) c').bind _ = _
      rw [ih c' l hl k]
      rfl

/-- the pattern of the fixed-field accessors -/
theorem Cursor.word_at {p : Bytes} {c : Cursor} {o : Nat} (ho : c.offset = some o) {k : Nat}
    (h : c.nameEnd + k + 2 ≤ p.length) :
    (do let _ ← unwrap c.offset; let _ ← sliceFrom p c.nameEnd; be16 p (c.nameEnd + k)) = .ok (get16 p (c.nameEnd + k)) := by
  have h1 := sliceFrom_ok (p := p) (a := c.nameEnd) (by omega)
  simp only [ho, unwrap, bind_ok, h1, be16_ok h]

theorem rrType_at {p : Bytes} {c : Cursor} {o : Nat} (ho : c.offset = some o) (h : c.nameEnd + 10 ≤ p.length) :
    c.rrType p = .ok (get16 p c.nameEnd) :=
  Cursor.word_at ho (k := 0) (by omega)

theorem nextIncl_live {pp : PP} {sec : Section} {r : RecPos} {ob oa : Bool}
    (hr : RRAtPos pp.packet sec r ob oa) (c : Cursor) (o : Nat) (hlive : c.offset = some o)
    (hnext : c.offsetNext = r.off) (k : Nat) (hk : c.rrsLeft = k + 1) :
    nextIncludingOpt pp c = .ok (some { c with rrsLeft := k, offset := some r.off, nameEnd := r.ne, offsetNext := r.next }) := by
  have hz : (k + 1 == 0) = false := rfl
  simp only [nextIncludingOpt, hlive, pure_eq, bind_ok, hk, hz, Bool.false_eq_true, if_false, Nat.add_sub_cancel,
    land_spec hr { c with rrsLeft := k, offset := some o } hnext]

theorem nextIncl_done {pp : PP} (c : Cursor) (o : Nat) (hlive : c.offset = some o) (hk : c.rrsLeft = 0) :
    nextIncludingOpt pp c = .ok none := by
  simp only [nextIncludingOpt, hlive, hk, pure_eq, bind_ok, beq_self_eq_true, if_true]

theorem collect_incl_live {pp : PP} {sec : Section} {l : List RecPos} {off e : Nat} {ob oe : Bool}
    (hl : RRsL pp.packet sec l off ob e oe) :
    ∀ (c : Cursor) (o : Nat) (fuel : Nat), c.offset = some o → c.offsetNext = off → c.rrsLeft = l.length →
      fuel > l.length →
      ∃ cs, collectWalk pp nextIncludingOpt fuel c = .ok cs ∧ cs.map posOf = l.map some := by
  induction hl with
  | nil off o =>
    intro c o' fuel hlive _ hk hf
    obtain ⟨n, rfl⟩ := Nat.exists_eq_add_one_of_ne_zero (Nat.ne_zero_of_lt hf)
    exact ⟨[], collectWalk_nil n (nextIncl_done c o' hlive hk), rfl⟩
  | @cons r l e ob om oe hr _ ih =>
    intro c o' fuel hlive hnext hk hf
    obtain ⟨n, rfl⟩ := Nat.exists_eq_add_one_of_ne_zero (Nat.ne_zero_of_lt hf)
    obtain ⟨cs, h1, h2⟩ := ih { c with rrsLeft := l.length, offset := some r.off, nameEnd := r.ne, offsetNext := r.next }
      r.off n rfl rfl rfl (Nat.lt_of_succ_lt_succ hf)
    exact ⟨_ :: cs, collectWalk_cons (nextIncl_live hr c o' hlive hnext l.length hk) h1, congrArg _ h2⟩

def nonOpt (p : Bytes) (l : List RecPos) : List RecPos := l.filter (fun r => get16 p r.ne != 41)

theorem nonOpt_eq_self {p : Bytes} {l : List RecPos} (h : ∀ r ∈ l, get16 p r.ne ≠ 41) : nonOpt p l = l :=
  List.filter_eq_self.2 (fun r hr => bne_iff_ne.2 (h r hr))

theorem RRAtPos.of_opt {p : Bytes} {sec : Section} {r : RecPos} {ob oa : Bool} (h : RRAtPos p sec r ob oa)
    (t : get16 p r.ne = 41) : sec = .additional ∧ ob = false ∧ oa = true := by
  have := h.2.2.2.2
  rw [if_pos t] at this
  exact ⟨this.1, this.2.2.1, this.2.2.2.1⟩

theorem RRAtPos.of_nonopt {p : Bytes} {sec : Section} {r : RecPos} {ob oa : Bool} (h : RRAtPos p sec r ob oa)
    (t : get16 p r.ne ≠ 41) : oa = ob := by
  have := h.2.2.2.2
  rw [if_neg t] at this
  exact this.2

theorem RRAtPos.body {p : Bytes} {sec : Section} {r : RecPos} {ob oa : Bool} (h : RRAtPos p sec r ob oa) :
    if get16 p r.ne = 41 then ∃ n, OptionsTile p (r.ne + 10) (r.ne + 10 + get16 p (r.ne + 8)) n
    else RDataOK p (get16 p r.ne) (get16 p (r.ne + 8)) (r.ne + 10) := by
  obtain ⟨-, -, hnext, -, hbody⟩ := h
  by_cases t : get16 p r.ne = 41
  · rw [if_pos t] at hbody ⊢
    exact hnext ▸ hbody.2.2.2.2
  · rw [if_neg t] at hbody ⊢
    exact hbody.1

/-- `ob = true`: an OPT record has been seen -/
theorem RRsL.no_opt_after {p : Bytes} {sec : Section} {l : List RecPos} {off e : Nat} {oe : Bool}
    (h : RRsL p sec l off true e oe) : ∀ r ∈ l, get16 p r.ne ≠ 41 := by
  generalize hob : true = ob at h
  induction h with
  | nil => intro r hr; cases hr
  | @cons r l e ob om oe hr _ ih =>
    subst hob
    have hne : get16 p r.ne ≠ 41 := fun t => Bool.noConfusion (hr.of_opt t).2.1
    intro r' hr'
    rcases List.mem_cons.1 hr' with rfl | hr'
    · exact hne
    · exact ih (hr.of_nonopt hne).symm r' hr'

theorem RRsL.cons_inv {p : Bytes} {sec : Section} {r : RecPos} {l : List RecPos} {off e : Nat} {ob oe : Bool}
    (h : RRsL p sec (r :: l) off ob e oe) :
    off = r.off ∧ ∃ om, RRAtPos p sec r ob om ∧ RRsL p sec l r.next om e oe := by
  cases h with
  | cons hr hrest => exact ⟨rfl, _, hr, hrest⟩

theorem nextSkip_nonopt {pp : PP} {sec : Section} {r : RecPos} {ob oa : Bool}
    (hr : RRAtPos pp.packet sec r ob oa) (h41 : get16 pp.packet r.ne ≠ 41) (c : Cursor) (o : Nat)
    (hlive : c.offset = some o) (hnext : c.offsetNext = r.off) (k : Nat) (hk : c.rrsLeft = k + 1) :
    nextSkippingOpt pp c = .ok (some { c with rrsLeft := k, offset := some r.off, nameEnd := r.ne, offsetNext := r.next }) := by
  simp only [nextSkippingOpt, nextIncl_live hr c o hlive hnext k hk, bind_ok, maybeSkipOpt,
    rrType_at (p := pp.packet) (c := { c with rrsLeft := k, offset := some r.off, nameEnd := r.ne, offsetNext := r.next }) rfl hr.2.1,
    TYPE_OPT, beq_false_of_ne h41, Bool.false_eq_true, if_false, pure_eq]

/-- the walk goes on from the cursor standing on the OPT: nothing after an OPT is an OPT, so the `assert` on the
next record holds -/
theorem nextSkip_opt {pp : PP} {sec : Section} {r : RecPos} {l : List RecPos} {e : Nat} {ob oa oe : Bool}
    (hr : RRAtPos pp.packet sec r ob oa) (h41 : get16 pp.packet r.ne = 41) (hl : RRsL pp.packet sec l r.next oa e oe)
    (c : Cursor) (o : Nat) (hlive : c.offset = some o) (hnext : c.offsetNext = r.off) (hk : c.rrsLeft = l.length + 1) :
    nextSkippingOpt pp c =
      nextSkippingOpt pp { c with rrsLeft := l.length, offset := some r.off, nameEnd := r.ne, offsetNext := r.next } := by
  have hno := RRsL.no_opt_after ((hr.of_opt h41).2.2 ▸ hl)
  have hty := rrType_at (p := pp.packet)
    (c := { c with rrsLeft := l.length, offset := some r.off, nameEnd := r.ne, offsetNext := r.next }) rfl hr.2.1
  rw [nextSkippingOpt, nextIncl_live hr c o hlive hnext _ hk]
  simp only [bind_ok, maybeSkipOpt, hty, TYPE_OPT, h41, beq_self_eq_true, if_true]
  cases l with
  | nil =>
    rw [nextSkippingOpt, nextIncl_done _ r.off rfl rfl]
    rfl
  | cons r2 l2 =>
    obtain ⟨hoff, om2, hr2, -⟩ := hl.cons_inv
    have hne2 := hno r2 List.mem_cons_self
    rw [nextSkip_nonopt hr2 hne2 _ r.off rfl hoff l2.length rfl]
    have hz : (l2.length + 1 == 0) = false := rfl
    simp only [List.length_cons, hz, Bool.false_eq_true, if_false, Nat.add_sub_cancel,
      land_spec hr2 ⟨c.sec, some r.off, r.next, r.ne, l2.length⟩ hoff, bind_ok,
      rrType_at (p := pp.packet) (c := ⟨c.sec, some r2.off, r2.next, r2.ne, l2.length⟩) rfl hr2.2.1, assert,
      bne_iff_ne.2 hne2, if_true, pure_eq]

theorem collect_skip_live {pp : PP} {sec : Section} {l : List RecPos} {off e : Nat} {ob oe : Bool}
    (hl : RRsL pp.packet sec l off ob e oe) :
    ∀ (c : Cursor) (o : Nat) (fuel : Nat), c.offset = some o → c.offsetNext = off → c.rrsLeft = l.length →
      fuel > l.length →
      ∃ cs, collectWalk pp nextSkippingOpt fuel c = .ok cs ∧ cs.map posOf = (nonOpt pp.packet l).map some := by
  induction hl with
  | nil off o =>
    intro c o' fuel hlive _ hk hf
    obtain ⟨n, rfl⟩ := Nat.exists_eq_add_one_of_ne_zero (Nat.ne_zero_of_lt hf)
    refine ⟨[], collectWalk_nil n ?_, rfl⟩
    rw [nextSkippingOpt, nextIncl_done c o' hlive hk]
    rfl
  | @cons r l e ob om oe hr hrest ih =>
    intro c o' fuel hlive hnext hk hf
    obtain ⟨n, rfl⟩ := Nat.exists_eq_add_one_of_ne_zero (Nat.ne_zero_of_lt hf)
    by_cases h41 : get16 pp.packet r.ne = 41
    · obtain ⟨cs, h1, h2⟩ := ih { c with rrsLeft := l.length, offset := some r.off, nameEnd := r.ne, offsetNext := r.next }
        r.off (n + 1) rfl rfl rfl (Nat.lt_of_succ_lt hf)
      refine ⟨cs, ?_, ?_⟩
      · rw [collect_first_step _ _ _ _ (nextSkip_opt hr h41 hrest c o' hlive hnext hk)]
        exact h1
      · rw [h2, nonOpt, nonOpt, List.filter_cons_of_neg (by simp [h41])]
    · obtain ⟨cs, h1, h2⟩ := ih { c with rrsLeft := l.length, offset := some r.off, nameEnd := r.ne, offsetNext := r.next }
        r.off n rfl rfl rfl (Nat.lt_of_succ_lt_succ hf)
      refine ⟨_ :: cs, collectWalk_cons (nextSkip_nonopt hr h41 c o' hlive hnext l.length hk) h1, ?_⟩
      rw [nonOpt, List.filter_cons_of_pos (by simp [h41])]
      exact congrArg _ h2

/-- count and start of a record section as a fresh cursor reads them from the object -/
def secInfo (pp : PP) : Section → Res (Nat × Option Nat)
  | .answer => do let n ← ancount pp.packet; pure (n, pp.offsetAnswers)
  | .nameServers => do let n ← nscount pp.packet; pure (n, pp.offsetNameservers)
  | .additional => do let n ← arcount pp.packet; pure (n, pp.offsetAdditional)
  | _ => .panic

theorem land_indep (p : Bytes) (c c' : Cursor) (h1 : c.sec = c'.sec) (h2 : c.offsetNext = c'.offsetNext)
    (h3 : c.rrsLeft = c'.rrsLeft) : Cursor.land p c = Cursor.land p c' := by
  unfold Cursor.land
  simp only [h1, h2, h3]

/-- a fresh cursor behaves like a live one standing just before the first record of the section -/
theorem nextIncl_fresh {pp : PP} {sec : Section} {n off : Nat} (hi : secInfo pp sec = .ok (n, if n > 0 then some off else none)) :
    nextIncludingOpt pp (Cursor.new sec) = nextIncludingOpt pp ⟨sec, some 0, off, 0, n⟩ := by
  unfold nextIncludingOpt
  -- by definition, what a fresh cursor reads is `secInfo`
  show ((secInfo pp sec >>= _) >>= _) = _
  rw [hi]
  cases n <;> rfl

theorem walk_incl {pp : PP} {sec : Section} {l : List RecPos} {off e : Nat} {ob oe : Bool}
    (hl : RRsL pp.packet sec l off ob e oe)
    (hi : secInfo pp sec = .ok (l.length, if l.length > 0 then some off else none)) :
    ∃ cs, collectWalk pp nextIncludingOpt (l.length + 1) (Cursor.new sec) = .ok cs ∧ cs.map posOf = l.map some := by
  rw [collect_first_step nextIncludingOpt _ _ _ (nextIncl_fresh hi)]
  exact collect_incl_live hl ⟨sec, some 0, off, 0, l.length⟩ 0 (l.length + 1) rfl rfl rfl (by omega)

theorem walk_skip {pp : PP} {sec : Section} {l : List RecPos} {off e : Nat} {ob oe : Bool}
    (hl : RRsL pp.packet sec l off ob e oe)
    (hi : secInfo pp sec = .ok (l.length, if l.length > 0 then some off else none)) :
    ∃ cs, collectWalk pp nextSkippingOpt (l.length + 1) (Cursor.new sec) = .ok cs ∧
      cs.map posOf = (nonOpt pp.packet l).map some := by
  have hfresh : nextSkippingOpt pp (Cursor.new sec) = nextSkippingOpt pp ⟨sec, some 0, off, 0, l.length⟩ := by
    unfold nextSkippingOpt
    rw [nextIncl_fresh hi]
  rw [collect_first_step nextSkippingOpt _ _ _ hfresh]
  exact collect_skip_live hl ⟨sec, some 0, off, 0, l.length⟩ 0 (l.length + 1) rfl rfl rfl (by omega)

theorem RRsL.functional {p : Bytes} {sec sec' : Section} {l l' : List RecPos} {off e e' : Nat} {ob oe ob' oe' : Bool}
    (h : RRsL p sec l off ob e oe) (h' : RRsL p sec' l' off ob' e' oe') (hlen : l.length = l'.length) :
    l = l' ∧ e = e' := by
  induction h generalizing l' ob' with
  | nil off o =>
    cases l' with
    | nil => cases h'; exact ⟨rfl, rfl⟩
    | cons _ _ => simp at hlen
  | @cons r l e ob om oe hr _ ih =>
    cases l' with
    | nil => simp at hlen
    | cons r' l' =>
      obtain ⟨hoff, om', hr', hrest'⟩ := h'.cons_inv
      have hne : r.ne = r'.ne := nameEnds_functional hr.1 (by rw [hoff]; exact hr'.1)
      have hnext : r.next = r'.next := by rw [hr.2.2.1, hr'.2.2.1, hne]
      have hr_eq : r = r' := by
        cases r; cases r'; simp at hoff hne hnext ⊢; exact ⟨hoff, hne, hnext⟩
      subst hr_eq
      obtain ⟨h1, h2⟩ := ih hrest' (by simpa using hlen)
      exact ⟨by rw [h1], h2⟩

theorem RRsL.no_opt_of_sec {p : Bytes} {sec : Section} {l : List RecPos} {off e : Nat} {ob oe : Bool}
    (h : RRsL p sec l off ob e oe) (hs : sec ≠ .additional) : ∀ r ∈ l, get16 p r.ne ≠ 41 := by
  induction h with
  | nil => intro r hr; cases hr
  | cons hr _ ih =>
    intro r' hr'
    rcases List.mem_cons.1 hr' with rfl | hr'
    · exact fun t => hs (hr.of_opt t).1
    · exact ih r' hr'

/-- start and end of each of `n` consecutive options from `a` -/
def tilePairs (p : Bytes) : Nat → Nat → List (Nat × Nat)
  | _, 0 => []
  | a, n + 1 => (a, a + 4 + get16 p (a + 2)) :: tilePairs p (a + 4 + get16 p (a + 2)) n

theorem ednsSkipRrFast_eq {p : Bytes} {a : Nat} (h : a + 4 ≤ p.length) :
    ednsSkipRrFast p a = .ok (a + 4 + get16 p (a + 2)) := by
  unfold ednsSkipRrFast
  consts
  rw [be16_ok (p := p) (i := a + 2) (by omega)]
  rfl

theorem nextEdns_done {pp : PP} (c : Cursor) (o : Nat) (ho : c.offset = some o) (hk : c.rrsLeft = 0) :
    nextEdns pp c = .ok none := by
  simp only [nextEdns, ho, hk, pure_eq, bind_ok, beq_self_eq_true, if_true]

theorem collect_edns_live {pp : PP} {a b n : Nat} (ht : OptionsTile pp.packet a b n) (hb : b ≤ pp.packet.length) :
    ∀ (c : Cursor) (o : Nat), c.offset = some o → c.offsetNext = a → c.rrsLeft = n →
      ∃ cs, collectWalk pp nextEdns (n + 1) c = .ok cs ∧
        cs.map (fun c => (c.offset, c.offsetNext)) = (tilePairs pp.packet a n).map (fun x => (some x.1, x.2)) := by
  induction ht with
  | done a =>
    intro c o ho _ hk
    exact ⟨[], collectWalk_nil 0 (nextEdns_done c o ho hk), rfl⟩
  | @opt a b n hfit _ ih =>
    intro c o ho hn hk
    have hz : (n + 1 == 0) = false := rfl
    have hstep : nextEdns pp c = .ok (some ⟨c.sec, some a, a + 4 + get16 pp.packet (a + 2), a, n⟩) := by
      simp only [nextEdns, ho, hk, hn, pure_eq, bind_ok, hz, Bool.false_eq_true, if_false,
        ednsSkipRrFast_eq (p := pp.packet) (a := a) (by omega), Nat.add_sub_cancel]
    obtain ⟨cs, h1, h2⟩ := ih hb ⟨c.sec, some a, a + 4 + get16 pp.packet (a + 2), a, n⟩ a rfl rfl rfl
    exact ⟨_ :: cs, collectWalk_cons hstep h1, congrArg _ h2⟩

theorem walk_edns_none {pp : PP} (hc : pp.ednsCount = 0) :
    collectWalk pp nextEdns 1 (Cursor.new .edns) = .ok [] := by
  refine collectWalk_nil 0 ?_
  simp only [nextEdns, Cursor.new, hc, beq_self_eq_true, if_true, pure_eq, bind_ok]

theorem walk_edns {pp : PP} {a b n : Nat} (ht : OptionsTile pp.packet a b n) (hb : b ≤ pp.packet.length)
    (hc : pp.ednsCount = n) (hs : pp.offsetEdns = some a) :
    ∃ cs, collectWalk pp nextEdns (n + 1) (Cursor.new .edns) = .ok cs ∧
      cs.map (fun c => (c.offset, c.offsetNext)) = (tilePairs pp.packet a n).map (fun x => (some x.1, x.2)) := by
  cases n with
  | zero => exact ⟨[], walk_edns_none hc, rfl⟩
  | succ m =>
    have hz : (m + 1 == 0) = false := rfl
    have hfresh : nextEdns pp (Cursor.new .edns) = nextEdns pp ⟨.edns, some 0, a, 0, m + 1⟩ := by
      simp only [nextEdns, Cursor.new, hc, hs, unwrap, hz, Bool.false_eq_true, if_false, bind_ok, pure_eq]
    rw [collect_first_step nextEdns _ _ _ hfresh]
    exact collect_edns_live ht hb ⟨.edns, some 0, a, 0, m + 1⟩ 0 rfl rfl rfl

theorem RRsL.bounds {p : Bytes} {sec : Section} {l : List RecPos} {off e : Nat} {ob oe : Bool}
    (h : RRsL p sec l off ob e oe) : off ≤ e ∧ ∀ r ∈ l, off ≤ r.off ∧ r.off < e := by
  induction h with
  | nil => exact ⟨Nat.le_refl _, fun r hr => nomatch hr⟩
  | @cons r l e ob om oe hr _ ih =>
    have := NameEnds.lt hr.1
    have hnext := hr.2.2.1
    refine ⟨by omega, fun r' hr' => ?_⟩
    rcases List.mem_cons.1 hr' with rfl | hr'
    · omega
    · have := ih.2 r' hr'
      omega

theorem RRsL.mem_pos {p : Bytes} {sec : Section} {l : List RecPos} {off e : Nat} {ob oe : Bool}
    (h : RRsL p sec l off ob e oe) : ∀ r ∈ l, ∃ ob' oa', RRAtPos p sec r ob' oa' := by
  induction h with
  | nil => intro r hr; simp at hr
  | cons hr _ ih =>
    intro r' hr'
    simp at hr'
    rcases hr' with rfl | hr'
    · exact ⟨_, _, hr⟩
    · exact ih r' hr'

/-- the section starts are recorded the way `parse()` records them -/
theorem currentSection_eq {pp : PP} {c : Cursor} {o q na a nn b nr d : Nat} (ho : c.offset = some o)
    (hq : pp.offsetQuestion = some q) (hqo : q ≤ o)
    (ha : pp.offsetAnswers = if na > 0 then some a else none)
    (hn : pp.offsetNameservers = if nn > 0 then some b else none)
    (hr : pp.offsetAdditional = if nr > 0 then some d else none) :
    c.currentSection pp = .ok (if 0 < nr ∧ d ≤ o then .additional else if 0 < nn ∧ b ≤ o then .nameServers
      else if 0 < na ∧ a ≤ o then .answer else .question) := by
  have hlt : optLt (some o) (some q) = false := by simp [optLt]; omega
  -- the test made for a section whose start is recorded only if it has records
  have started : ∀ n a : Nat, ((if n > 0 then some a else none : Option Nat).isSome &&
      optGe (some o) (if n > 0 then some a else none)) = decide (0 < n ∧ a ≤ o) := fun n a => by
    by_cases h : n > 0 <;> simp [h, optGe, optLt, ← Nat.not_le]
  simp only [Cursor.currentSection, ho, hq, ha, hn, hr, hlt, started, Bool.false_eq_true, if_false, pure_eq,
    decide_eq_true_eq]

end Dns
