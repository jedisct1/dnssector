/-
  Every step of `parse()` returns (`Ok` or `Err`): no panic, no divergence, and the cursor stays inside the packet.
-/
import DnsModel.Lemmas.PlainName
namespace Dns
open Res Sector

theorem be16_returns_of_le {p : Bytes} {i : Nat} (h : i + 2 ≤ p.length) : (be16 p i).Returns :=
  be16_ok h ▸ returns_ok _

structure SInv (p : Bytes) (s : Sector) : Prop where
  off : s.offset ≤ p.length

/- `_bind_ok`: when a block that starts with the primitive succeeds (no assumption on the cursor); `_spec`: the
primitive returns once the cursor is inside the packet. -/

section
variable {β : Type} {p : Bytes} {s : Sector} {r : β}

theorem ensureRemainingLen_bind_ok {n : Nat} {f : Unit → Res β} :
    (ensureRemainingLen p s n >>= f) = .ok r ↔ s.offset + n ≤ p.length ∧ f () = .ok r := by
  unfold ensureRemainingLen remainingLen
  simp only [Res.bind_assoc, sub_bind_ok, failIf_bind_ok, decide_eq_false_iff_not, ← and_assoc]
  exact and_congr_left' (by omega)

theorem incrementOffset_bind_ok {n : Nat} {f : Sector × Nat → Res β} :
    (incrementOffset p s n >>= f) = .ok r ↔
      s.offset + n ≤ p.length ∧ f ({ s with offset := s.offset + n }, s.offset) = .ok r := by
  unfold incrementOffset
  simp only [Res.bind_assoc, ensureRemainingLen_bind_ok, pure_eq, bind_ok]

theorem be16Load_bind_ok {k : Nat} {f : Nat → Res β} :
    (be16Load p s k >>= f) = .ok r ↔ s.offset + k + 2 ≤ p.length ∧ f (get16 p (s.offset + k)) = .ok r := by
  unfold be16Load
  simp only [Res.bind_assoc, ensureRemainingLen_bind_ok, be16_bind_ok]
  exact and_iff_right_of_imp (fun h => by omega)

theorem u8Load_bind_ok {k : Nat} {f : Nat → Res β} :
    (u8Load p s k >>= f) = .ok r ↔ s.offset + k + 1 ≤ p.length ∧ f (getB p (s.offset + k)) = .ok r := by
  unfold u8Load
  simp only [Res.bind_assoc, ensureRemainingLen_bind_ok, idx_bind_ok]
  exact and_iff_right_of_imp (fun h => by omega)

theorem setOffset_bind_ok {o : Nat} {f : Sector × Nat → Res β} :
    (setOffset p s o >>= f) = .ok r ↔ o < p.length ∧ f ({ s with offset := o }, s.offset) = .ok r := by
  unfold setOffset
  split <;> simp [*] <;> omega

theorem skipName_bind_ok {f : Sector → Res β} :
    (skipName p s >>= f) = .ok r ↔
      ∃ ne, checkCompressedName p s.offset = .ok ne ∧ ne < p.length ∧ f { s with offset := ne } = .ok r := by
  unfold skipName
  simp only [Res.bind_assoc, bind_eq_ok (x := checkCompressedName _ _), setOffset_bind_ok, pure_eq, bind_ok]

end

section
variable {p : Bytes} {s : Sector} (h : s.offset ≤ p.length)
include h

theorem ensureRemainingLen_spec (n : Nat) : (ensureRemainingLen p s n).Spec fun _ => s.offset + n ≤ p.length := by
  rw [ensureRemainingLen, remainingLen, sub_ok h]
  exact (failIf_spec _ _).mono fun _ hc => by have := of_decide_eq_false hc; omega

theorem incrementOffset_spec (n : Nat) :
    (incrementOffset p s n).Spec fun r => r = ({ s with offset := s.offset + n }, s.offset) ∧ s.offset + n ≤ p.length :=
  (ensureRemainingLen_spec h n).bind fun _ hfit => spec_ok ⟨rfl, hfit⟩

theorem be16Load_spec (k : Nat) : (be16Load p s k).Spec fun v => v = get16 p (s.offset + k) :=
  (ensureRemainingLen_spec h _).bind fun _ hfit => be16_ok (p := p) (i := s.offset + k) (by omega) ▸ spec_ok rfl

end

theorem u8Load_returns {p : Bytes} {s : Sector} (h : s.offset ≤ p.length) (k : Nat) :
    (u8Load p s k).Returns := by
  refine (Spec.bind (Q := fun _ => True) (ensureRemainingLen_spec h _) fun _ hfit => ?_).1
  obtain ⟨b, hb, _⟩ := idx_ok_of_lt (p := p) (i := s.offset + k) (by omega)
  exact hb ▸ spec_ok trivial

theorem setOffset_spec (p : Bytes) (s : Sector) (o : Nat) :
    (setOffset p s o).Spec fun r => r = ({ s with offset := o }, s.offset) ∧ o < p.length :=
  (spec_guard ..).mono fun _ h => ⟨h.2, Nat.lt_of_not_le h.1⟩

theorem skipName_ok {p : Bytes} {s s' : Sector} (h : skipName p s = .ok s') :
    ∃ off, checkCompressedName p s.offset = .ok off ∧ s' = { s with offset := off } ∧ off < p.length := by
  obtain ⟨off, h1, h2, h3⟩ := skipName_bind_ok.1 ((Res.bind_pure _).trans h)
  exact ⟨off, h1, (Res.ok.inj h3).symm, h2⟩

/-- The lower bound `lo` is what the step count needs (`parseRRI_lin`): a record takes at least 11 bytes (one of name,
ten of header), a question at least 5 (one of name, four of type and class). -/
def Post (p : Bytes) (lo : Nat) (x : Res Sector) : Prop :=
  x.Spec fun s' => lo ≤ s'.offset ∧ s'.offset ≤ p.length

theorem Post.mono {p : Bytes} {lo lo' : Nat} {x : Res Sector} (h : Post p lo x) (hl : lo' ≤ lo) : Post p lo' x :=
  Spec.mono h fun _ hs => ⟨Nat.le_trans hl hs.1, hs.2⟩

theorem post_inc_bind {p : Bytes} {s : Sector} {lo : Nat} {f : Sector × Nat → Res Sector} (hs : s.offset ≤ p.length)
    (n : Nat) (hf : ∀ s' old, s'.offset = s.offset + n → s'.offset ≤ p.length → Post p lo (f (s', old))) :
    Post p lo (incrementOffset p s n >>= f) :=
  (incrementOffset_spec hs n).bind fun _ hr => hr.1 ▸ hf _ _ rfl hr.2

theorem post_inc {p : Bytes} {s : Sector} (hs : s.offset ≤ p.length) (n : Nat) :
    Post p (s.offset + n) (do let (s, _) ← incrementOffset p s n; pure s) :=
  post_inc_bind hs n fun _ _ e h => spec_ok ⟨Nat.le_of_eq e.symm, h⟩

theorem tail_spec {p : Bytes} {s : Sector} (hs : s.offset ≤ p.length) (c : Bool) (e : Err) (n : Nat) :
    let r : Res Sector := (do failIf c e; let (s, _) ← incrementOffset p s n; pure s)
    r.Returns ∧ ∀ s', r = .ok s' → s'.offset ≤ p.length :=
  (failIf_spec c e).bind fun _ _ => Spec.mono (post_inc hs n) fun _ h => h.2

theorem skipName_spec (p : Bytes) (s : Sector) : Post p (s.offset + 1) (skipName p s) := by
  refine spec_bind (checkCompressedName_returns p s.offset) fun off hcc => ?_
  refine (setOffset_spec p s off).bind fun _ hr => hr.1 ▸ spec_ok ⟨checkCompressedName_ok_gt hcc, Nat.le_of_lt hr.2⟩

theorem ednsSkipRr_spec {p : Bytes} {s : Sector} {e : Nat} (he : s.ednsEnd = some e)
    (h1 : s.offset ≤ e) (h2 : e ≤ p.length) :
    (ednsSkipRr p s).Spec fun s' => s'.ednsEnd = some e ∧ s.offset + 4 ≤ s'.offset ∧ s'.offset ≤ e := by
  unfold ednsSkipRr ednsRrRdlen ednsBe16Load ednsIncrementOffset ednsEnsureRemainingLen ednsRemainingLen
  simp only [he, sub, h1, if_true, bind_ok, DNS_EDNS_RR_RDLEN_OFFSET, DNS_EDNS_RR_HEADER_SIZE]
  refine Spec.bind (P := fun _ => s.offset + 4 ≤ e) ?_ fun l hl => ?_
  · refine (failIf_spec _ _).bind fun _ hlt => ?_
    have hlt : s.offset + 4 ≤ e := by have := of_decide_eq_false hlt; omega
    obtain ⟨a, ha, _⟩ := idx_ok_of_lt (p := p) (i := s.offset + 2) (by omega)
    obtain ⟨b, hb, _⟩ := idx_ok_of_lt (p := p) (i := s.offset + 2 + 1) (by omega)
    rw [ha, hb]
    exact spec_ok hlt
  · refine (failIf_spec _ _).bind fun _ h3 => spec_ok ⟨rfl, Nat.add_le_add_left (Nat.le_add_right 4 l) _, ?_⟩
    have := of_decide_eq_false h3
    show s.offset + (4 + l) ≤ e
    omega

theorem optLoop_spec (p : Bytes) (fuel : Nat) (s : Sector) (e : Nat) (he : s.ednsEnd = some e)
    (h1 : s.offset ≤ e) (h2 : e ≤ p.length) (hf : (e - s.offset) / 4 + 1 ≤ fuel) :
    (optLoop p fuel s).Returns ∧ ∀ s', optLoop p fuel s = .ok s' → s'.offset = e ∧ s'.ednsEnd = some e := by
  induction fuel generalizing s with
  | zero => omega
  | succ n ih =>
    unfold optLoop
    simp only [ednsRemainingLen, he, sub, h1, if_true, bind_ok]
    refine spec_ite (fun hpos => ?_) fun hz => spec_ok ⟨by omega, he⟩
    refine (ednsSkipRr_spec he h1 h2).bind fun s1 ⟨g1, g2, g3⟩ => ?_
    exact ih { s1 with ednsCount := s1.ednsCount + 1 } g1 g3 (by show (e - s1.offset) / 4 + 1 ≤ n; omega)

theorem parseOpt_spec {p : Bytes} {s : Sector} (h : s.offset ≤ p.length) :
    (parseOpt p s).Returns ∧ ∀ s', parseOpt p s = .ok s' →
      s'.offset = s.offset + 10 + get16 p (s.offset + 8) ∧ s'.offset ≤ p.length := by
  unfold parseOpt
  refine (failIf_spec _ _).bind fun _ _ => ?_
  refine spec_bind (u8Load_returns h _) fun _ _ => ?_
  refine spec_bind (u8Load_returns h _) fun _ _ => ?_
  refine (be16Load_spec h _).bind fun _ _ => ?_
  refine (be16Load_spec h _).bind fun _ _ => ?_
  refine (be16Load_spec h _).bind fun l hl => ?_
  refine (incrementOffset_spec h _).bind fun r ⟨hr, h10⟩ => ?_
  subst hl hr
  refine (ensureRemainingLen_spec h10 _).bind fun _ hfit => ?_
  refine Spec.mono (optLoop_spec p _ _ _ rfl (Nat.le_add_right _ _) hfit ?_) fun s' hs' => ⟨hs'.1, hs'.1 ▸ hfit⟩
  show (s.offset + 10 + get16 p (s.offset + 8) - (s.offset + 10)) / 4 + 1 ≤ get16 p (s.offset + 8) / 4 + 2
  omega

/-- rdata that is `pre` fixed bytes and then a name validated by `chk`: NS, CNAME, PTR, MX, DNAME -/
theorem post_name_rdata {p : Bytes} {s1 : Sector} (hs : s1.offset ≤ p.length) (c : Bool) (rdlen pre : Nat)
    (chk : Bytes → Nat → Res Nat) (hchk : ∀ o, (chk p o).Returns)
    (hgt : ∀ o e, chk p o = .ok e → o < e) :
    Post p (s1.offset + 10) (do
      failIf c .packetTooSmall
      let (s, _) ← incrementOffset p s1 10
      let fin ← chk p (s.offset + pre)
      let d ← sub fin s.offset
      failIf (d != rdlen) .invalidPacket
      let (s, _) ← incrementOffset p s rdlen
      pure s) := by
  refine (failIf_spec _ _).bind fun _ _ => ?_
  refine post_inc_bind hs _ fun s2 _ e2 h2 => ?_
  refine spec_bind (hchk _) fun fin hfin => ?_
  have := hgt _ _ hfin
  refine (sub_spec (by omega)).bind fun _ _ => ?_
  refine (failIf_spec _ _).bind fun _ _ => ?_
  exact (post_inc h2 rdlen).mono (by omega)

theorem parseRR_spec {p : Bytes} {s : Sector} (sec : Section) :
    Post p (s.offset + 11) (parseRR p s sec) := by
  unfold parseRR
  refine (skipName_spec p s).bind fun s1 ⟨hgt, h1⟩ => ?_
  refine (be16Load_spec h1 _).bind fun t _ => ?_
  refine (be16Load_spec h1 _).bind fun l _ => ?_
  refine Post.mono ?_ (show s.offset + 11 ≤ s1.offset + 10 by omega)
  have hinc : s1.offset + 10 ≤ s1.offset + (DNS_RR_HEADER_SIZE + l) := Nat.add_le_add_left (Nat.le_add_right 10 l) _
  have tail (c : Bool) (e : Err) : Post p (s1.offset + 10) (do
      failIf c e; let (s, _) ← incrementOffset p s1 (DNS_RR_HEADER_SIZE + l); pure s) :=
    (failIf_spec c e).bind fun _ _ => (post_inc h1 _).mono hinc
  refine spec_ite (fun _ => ?_) fun _ => spec_ite (fun _ => ?_) fun _ => spec_ite (fun _ => ?_) fun _ =>
    spec_ite (fun _ => ?_) fun _ => spec_ite (fun _ => ?_) fun _ => spec_ite (fun _ => tail _ _) fun _ =>
    spec_ite (fun _ => tail _ _) fun _ => (post_inc h1 _).mono hinc
  · -- OPT
    refine (failIf_spec _ _).bind fun _ _ => ?_
    refine (sub_spec (by omega)).bind fun _ _ => ?_
    refine (failIf_spec _ _).bind fun _ _ => ?_
    exact Spec.mono (parseOpt_spec h1) fun s' hs' => ⟨by omega, hs'.2⟩
  · exact post_name_rdata h1 _ _ 0 checkCompressedName (checkCompressedName_returns p)
      fun _ _ h => checkCompressedName_ok_gt h
  · exact post_name_rdata h1 _ _ 2 checkCompressedName (checkCompressedName_returns p)
      fun _ _ h => checkCompressedName_ok_gt h
  · -- SOA: two names, then twenty bytes
    refine (failIf_spec _ _).bind fun _ hrd => ?_
    refine post_inc_bind h1 _ fun s2 _ e2 h2 => ?_
    refine spec_bind (checkCompressedName_returns _ _) fun fin1 hfin1 => ?_
    refine spec_bind (checkCompressedName_returns _ _) fun fin2 hfin2 => ?_
    have := checkCompressedName_ok_gt hfin1
    have := checkCompressedName_ok_gt hfin2
    refine (sub_spec (by omega)).bind fun _ _ => ?_
    refine (sub_spec (by have := of_decide_eq_false hrd; omega)).bind fun _ _ => ?_
    refine (failIf_spec _ _).bind fun _ _ => ?_
    exact (post_inc h2 l).mono (by omega)
  · exact post_name_rdata h1 _ _ 0 checkUncompressedName (checkUncompressedName_returns p)
      fun _ _ h => checkUncompressedName_ok_gt h

theorem parseRRs_spec {p : Bytes} (sec : Section) (n : Nat) {s : Sector} (h : s.offset ≤ p.length) :
    Post p (s.offset + 11 * n) (parseRRs p sec n s) := by
  induction n generalizing s with
  | zero => exact spec_ok ⟨Nat.le_refl _, h⟩
  | succ k ih => exact (parseRR_spec sec).bind fun s1 hs1 => (ih hs1.2).mono (by omega)

theorem parseQuestion_spec {p : Bytes} {s : Sector} :
    Post p (s.offset + 5) (parseQuestion p s) := by
  unfold parseQuestion ensureInClass rrClass
  refine (skipName_spec p s).bind fun s1 ⟨hgt, h1⟩ => ?_
  refine spec_bind (bind_returns (be16Load_spec h1 _).1 fun _ _ => failIf_returns _ _) fun _ _ => ?_
  refine (be16Load_spec h1 _).bind fun _ _ => ?_
  refine (failIf_spec _ _).bind fun _ _ => ?_
  exact (post_inc h1 _).mono (by show s.offset + 5 ≤ s1.offset + 4; omega)

/-- `C01.parse_total` -/
theorem parse_returns (p : Bytes) : (parse p).Returns := by
  unfold parse
  refine (Spec.bind (Q := fun _ => True) (failIf_spec _ _) fun _ hlen => ?_).1
  have hlen : 12 ≤ p.length := Nat.le_of_not_lt (of_decide_eq_false hlen)
  refine spec_bind (be16_returns_of_le (by show 2 + 2 ≤ p.length; omega)) fun flags _ => ?_
  refine spec_bind (be16_returns_of_le (by omega)) fun qd _ => ?_
  refine (failIf_spec _ _).bind fun _ _ => ?_
  refine (failIf_spec _ _).bind fun _ _ => ?_
  refine (setOffset_spec _ _ _).bind fun r _ => ?_
  refine parseQuestion_spec.bind fun s2 ⟨_, h2⟩ => ?_
  refine spec_bind (be16_returns_of_le (by omega)) fun an _ => ?_
  refine (failIf_spec _ _).bind fun _ _ => ?_
  refine (parseRRs_spec .answer an h2).bind fun s3 ⟨_, h3⟩ => ?_
  refine spec_bind (be16_returns_of_le (by omega)) fun ns _ => ?_
  refine (failIf_spec _ _).bind fun _ _ => ?_
  refine (parseRRs_spec .nameServers ns h3).bind fun s4 ⟨_, h4⟩ => ?_
  refine spec_bind (be16_returns_of_le (by omega)) fun ar _ => ?_
  refine (parseRRs_spec .additional ar h4).bind fun s5 ⟨_, h5⟩ => ?_
  rw [remainingLen, sub_ok h5]
  exact (failIf_spec _ _).bind fun _ _ => spec_ok trivial

end Dns
