/-
  `copy_with_replaced_name`: read a name of the packet, rename it, write it
  compressed.
-/
import DnsModel.Lemmas.Replace
import DnsModel.Lemmas.CompressName
namespace Dns
open Res

/-- a well-formed, pointer-free, non-root name given as argument of the renaming -/
structure ArgName (ls : List (List UInt8)) : Prop where
  ne : ls ≠ []
  ok : ∀ l ∈ ls, okLabel l
  good : ∀ l ∈ ls, goodChars l = true
  len : wireLen ls ≤ 255

theorem Renamed.valid {src tgt ls ls' : List (List UInt8)} {sfx : Bool} (h : Renamed src tgt sfx ls ls')
    (hok : ∀ l ∈ ls, okLabel l) (hg : ∀ l ∈ ls, goodChars l = true) (ht : ArgName tgt) :
    (∀ l ∈ ls', okLabel l) ∧ (∀ l ∈ ls', goodChars l = true) := by
  cases h with
  | hit a b _ _ =>
    constructor
    · intro l hl
      rcases List.mem_append.1 hl with h | h
      · exact hok l (by simp [h])
      · exact ht.ok l h
    · intro l hl
      rcases List.mem_append.1 hl with h | h
      · exact hg l (by simp [h])
      · exact ht.good l h
  | miss _ _ => exact ⟨hok, hg⟩

theorem copyReplaced_spec {p : Bytes} {off e : Nat} {ls src tgt : List (List UInt8)} (hv : ValidName p off ls e)
    (hs : ArgName src) (ht : ArgName tgt) (sfx : Bool) (dict : SuffixDict) (n : Nat) (X0 : Bytes) (hX0 : X0.length = n)
    (hinv0 : DictInv dict X0) :
    ∃ ls', Renamed src tgt sfx ls ls' ∧
      ((wireLen ls' ≤ 255 ∧ ∃ (dict' : SuffixDict) (em : Bytes),
          (∀ out2 : Bytes, out2.length = n →
            copyWithReplacedName out2 p off dict (encLabels tgt ++ [0]) (encLabels src ++ [0]) sfx = .ok (dict', out2 ++ em)) ∧
          0 < em.length ∧ em.length ≤ labSum ls' + 1 ∧
          (∀ X : Bytes, X.length = n → DictInv dict X →
            DictInv dict' (X ++ em) ∧ ∃ ls'', lsCi ls'' ls' ∧ ∀ t : Bytes, ValidName (X ++ em ++ t) n ls'' (n + em.length))) ∨
       (255 < wireLen ls' ∧ ∀ out2 : Bytes,
          copyWithReplacedName out2 p off dict (encLabels tgt ++ [0]) (encLabels src ++ [0]) sfx = .err .invalidName)) := by
  obtain ⟨hokl, hwl, hgl⟩ := validName_ok hv
  have hcopy := copyUncompressedName_valid hv
  obtain ⟨ls', hren, ⟨hw, r, hrep, hget⟩ | ⟨hbig, herr⟩⟩ := replaceRaw_renamed sfx hokl hwl hs.ok ht.ok hs.ne ht.ne
  · obtain ⟨hok', hg'⟩ := hren.valid hokl hgl ht
    obtain ⟨dict', em, hgen, hle, hpos, hall⟩ := compressName_any ls' hok' hw hg' dict n X0 hX0 hinv0
    refine ⟨ls', hren, Or.inl ⟨hw, dict', em, fun out2 hl => ?_, hpos, hle, hall⟩⟩
    unfold copyWithReplacedName
    simp only [hcopy, bind_ok, hrep, hget, hgen out2 hl, pure_eq]
  · refine ⟨ls', hren, Or.inr ⟨hbig, fun out2 => ?_⟩⟩
    unfold copyWithReplacedName
    simp only [hcopy, bind_ok, herr, bind_err]

end Dns
