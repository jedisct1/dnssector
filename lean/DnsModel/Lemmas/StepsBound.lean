/-
  The instrumented validator spends a number of steps linear in the bytes it consumes: ≤ 822 + consumed/4 per
  record, with at least 11 bytes consumed per accepted record.
-/
import DnsModel.Lemmas.StepsErasure
import DnsModel.Lemmas.SectorTotal
namespace Dns
open Cnt Sector Res

theorem skipNameI_steps (p : Bytes) (s : Sector) : (SectorI.skipName p s).steps ≤ nameFuel :=
  steps_bind_le _ _ nameFuel 0 (checkCompressedNameI_steps _ _) fun _ _ => steps_lift_bind_le _ _ 0 fun _ _ => Nat.le_refl 0

theorem parseQuestionI_steps (p : Bytes) (s : Sector) : (SectorI.parseQuestion p s).steps ≤ nameFuel :=
  steps_bind_le _ _ nameFuel 0 (skipNameI_steps p s) fun _ _ =>
    steps_lift_bind_le _ _ 0 fun _ _ => steps_lift_bind_le _ _ 0 fun _ _ => steps_lift_bind_le _ _ 0 fun _ _ =>
    steps_lift_bind_le _ _ 0 fun _ _ => Nat.le_refl 0

theorem optLoopI_steps (p : Bytes) (fuel : Nat) (s : Sector) : (SectorI.optLoop p fuel s).steps ≤ fuel := by
  induction fuel generalizing s with
  | zero => exact Nat.le_refl 0
  | succ n ih =>
    unfold SectorI.optLoop
    refine steps_lift_bind_le _ _ _ fun r _ => steps_ite_le ?_ (Nat.zero_le _)
    refine Nat.add_comm n 1 ▸ steps_bind_le _ _ 1 n ?_ fun s1 _ => ih _
    exact steps_bind_le _ _ 1 0 (Nat.le_refl 1) fun _ _ => Nat.le_refl 0

theorem res_lift_ite_bind {α β} (c : Prop) [Decidable c] (e : Err) (v : α) (f : α → Cnt β) :
    (lift (if c then (.err e : Res α) else .ok v) >>= f).res = if c then .err e else (f v).res := by
  split <;> simp

/-- `x`, started at `s`, spends at most `c` steps and one more for every four bytes it consumes — or, when it fails,
for every four bytes that were left -/
def Cost (p : Bytes) (s : Sector) (c : Nat) (x : Cnt Sector) : Prop :=
  x.steps ≤ c + (p.length - s.offset) / 4 ∧ ∀ s', x.res = .ok s' → x.steps ≤ c + (s'.offset - s.offset) / 4

theorem Cost.of_le {p : Bytes} {s : Sector} {c : Nat} {x : Cnt Sector} (h : x.steps ≤ c) : Cost p s c x :=
  ⟨Nat.le_trans h (Nat.le_add_right _ _), fun _ _ => Nat.le_trans h (Nat.le_add_right _ _)⟩

theorem Cost.bind {α} {p : Bytes} {s : Sector} {n c : Nat} {x : Cnt α} {f : α → Cnt Sector} (hx : x.steps ≤ n)
    (hf : ∀ a, x.res = .ok a → ∃ s1, s.offset ≤ s1.offset ∧ Cost p s1 c (f a)) : Cost p s (n + c) (x >>= f) := by
  refine ⟨Nat.add_assoc .. ▸ steps_bind_le x f n _ hx fun a ha => ?_, fun s' hs' => ?_⟩
  · obtain ⟨s1, h1, h2, _⟩ := hf a ha
    exact Nat.le_trans h2 (Nat.add_le_add_left (Nat.div_le_div_right (Nat.sub_le_sub_left h1 _)) c)
  · obtain ⟨a, ha, hb, e⟩ := bind_ok_decomp hs'
    obtain ⟨s1, h1, _, h3⟩ := hf a ha
    rw [e, Nat.add_assoc]
    exact Nat.add_le_add hx (Nat.le_trans (h3 s' hb) (Nat.add_le_add_left (Nat.div_le_div_right (Nat.sub_le_sub_left h1 _)) c))

theorem Cost.lift_bind {α} {p : Bytes} {s : Sector} {c : Nat} {r : Res α} {f : α → Cnt Sector}
    (hf : ∀ a, r = .ok a → Cost p s c (f a)) : Cost p s c (lift r >>= f) :=
  Nat.zero_add c ▸ Cost.bind (Nat.le_refl 0) fun a ha => ⟨s, Nat.le_refl _, hf a ha⟩

/-- at most one step per four bytes of option data (the fuel of `optLoop`), plus two -/
theorem Cost.ite {p : Bytes} {s : Sector} {c : Nat} {b : Prop} [Decidable b] {x y : Cnt Sector}
    (hx : Cost p s c x) (hy : Cost p s c y) : Cost p s c (if b then x else y) := by
  split
  · exact hx
  · exact hy

theorem parseOptI_cost {p : Bytes} {s : Sector} (h : s.offset ≤ p.length) : Cost p s 2 (SectorI.parseOpt p s) := by
  have key : (SectorI.parseOpt p s).steps ≤ min (get16 p (s.offset + 8)) (p.length - s.offset) / 4 + 2 := by
    unfold SectorI.parseOpt
    refine steps_lift_bind_le _ _ _ fun _ _ => steps_lift_bind_le _ _ _ fun _ _ => steps_lift_bind_le _ _ _ fun _ _ =>
      steps_lift_bind_le _ _ _ fun _ _ => steps_lift_bind_le _ _ _ fun _ _ => steps_lift_bind_le _ _ _ fun l hl => ?_
    refine steps_lift_bind_le _ _ _ fun r hr => steps_lift_bind_le _ _ _ fun _ hfit => ?_
    obtain rfl := (be16Load_spec h _).2 l hl
    obtain ⟨rfl, h10⟩ := (incrementOffset_spec h _).2 r hr
    have := (ensureRemainingLen_spec h10 _).2 _ hfit
    refine Nat.le_trans (optLoopI_steps _ _ _) (Nat.add_le_add_right (Nat.div_le_div_right (Nat.le_min.2 ⟨Nat.le_refl _, ?_⟩)) 2)
    show get16 p (s.offset + 8) ≤ p.length - s.offset
    have : s.offset + 10 + get16 p (s.offset + 8) ≤ p.length := this
    omega
  have hmin := Nat.min_le_left (get16 p (s.offset + 8)) (p.length - s.offset)
  have hmin' := Nat.min_le_right (get16 p (s.offset + 8)) (p.length - s.offset)
  refine ⟨by omega, fun s' hs => ?_⟩
  have := ((parseOpt_spec h).2 s' (parseOptI_res p s ▸ hs)).1
  omega

/-- at most two name walks, or the option walk -/
theorem rrBodyI_cost {p : Bytes} {s : Sector} (sec : Section) (rrStart t l : Nat) (h : s.offset ≤ p.length) :
    Cost p s (2 * nameFuel + 2) (SectorI.rrBody p s sec rrStart t l) := by
  have free {α} (r : Res α) (f : α → Cnt Sector) (hf : ∀ a, (f a).steps ≤ 0) : (lift r >>= f).steps ≤ 0 :=
    steps_lift_bind_le r f 0 fun a _ => hf a
  have done (s : Sector × Nat) : (match s with | (s, _) => pure s : Cnt Sector).steps ≤ 0 := Nat.le_refl 0
  have walk (x : Cnt Nat) (hx : x.steps ≤ nameFuel) (f : Nat → Cnt Sector) (hf : ∀ a, (f a).steps ≤ nameFuel) :
      (x >>= f).steps ≤ 2 * nameFuel + 2 := Nat.le_trans (steps_bind_le x f nameFuel nameFuel hx fun a _ => hf a) (by omega)
  have zero {n : Nat} {x : Cnt Sector} (hx : x.steps ≤ 0) : x.steps ≤ n := Nat.le_trans hx (Nat.zero_le n)
  refine Cost.ite ?_ (Cost.of_le (steps_ite_le ?_ (steps_ite_le ?_ (steps_ite_le ?_ (steps_ite_le ?_
    (steps_ite_le ?_ (steps_ite_le ?_ ?_)))))))
  · refine Cost.lift_bind fun _ _ => Cost.lift_bind fun _ _ => Cost.lift_bind fun _ _ => ?_
    have := parseOptI_cost h
    exact ⟨by have := this.1; omega, fun s' hs' => by have := this.2 s' hs'; omega⟩
  · refine steps_lift_bind_le _ _ _ fun _ _ => steps_lift_bind_le _ _ _ fun _ _ => ?_
    exact walk _ (checkCompressedNameI_steps _ _) _ fun _ => zero (free _ _ fun _ => free _ _ fun _ => free _ _ done)
  · refine steps_lift_bind_le _ _ _ fun _ _ => steps_lift_bind_le _ _ _ fun _ _ => ?_
    exact walk _ (checkCompressedNameI_steps _ _) _ fun _ => zero (free _ _ fun _ => free _ _ fun _ => free _ _ done)
  · refine steps_lift_bind_le _ _ _ fun _ _ => steps_lift_bind_le _ _ _ fun _ _ => ?_
    refine walk _ (checkCompressedNameI_steps _ _) _ fun _ => ?_
    refine steps_bind_le _ _ nameFuel 0 (checkCompressedNameI_steps _ _) fun _ _ => ?_
    exact free _ _ fun _ => free _ _ fun _ => free _ _ fun _ => free _ _ done
  · refine steps_lift_bind_le _ _ _ fun _ _ => steps_lift_bind_le _ _ _ fun _ _ => ?_
    exact walk _ (checkUncompressedNameI_steps _ _) _ fun _ => zero (free _ _ fun _ => free _ _ fun _ => free _ _ done)
  · exact zero (free _ _ fun _ => free _ _ done)
  · exact zero (free _ _ fun _ => free _ _ done)
  · exact zero (free _ _ done)

/-- an accepted record consumes at least 11 bytes, and `76 * 11 ≥ 822 + 11 / 4` -/
def stepsPerByte : Nat := 76

/-- what one `parse_rr` spends at most, besides a quarter step per byte: its own step, the owner name, two more names -/
def stepsPerRecord : Nat := 1 + (nameFuel + (2 * nameFuel + 2))

/-- `x`, started at `s`, spends at most `stepsPerByte` steps per byte it consumes, plus `stepsPerRecord` if it fails -/
def Lin (p : Bytes) (s : Sector) (x : Cnt Sector) : Prop :=
  x.steps ≤ stepsPerByte * (p.length - s.offset) + stepsPerRecord ∧
    ∀ s', x.res = .ok s' →
      s.offset ≤ s'.offset ∧ s'.offset ≤ p.length ∧ x.steps ≤ stepsPerByte * (s'.offset - s.offset)

theorem Lin.bind_le {β} {p : Bytes} {s : Sector} {x : Cnt Sector} (hx : Lin p s x) (f : Sector → Cnt β)
    (hf : ∀ s', s'.offset ≤ p.length → (f s').steps ≤ stepsPerByte * (p.length - s'.offset) + stepsPerRecord) :
    (x >>= f).steps ≤ stepsPerByte * (p.length - s.offset) + stepsPerRecord := by
  rw [steps_bind]
  cases hr : x.res with
  | ok s' =>
    obtain ⟨a1, a2, a3⟩ := hx.2 s' hr
    have := hf s' a2
    simp only [stepsPerByte] at *
    omega
  | _ => exact hx.1

theorem parseRRI_lin {p : Bytes} {s : Sector} (sec : Section) : Lin p s (SectorI.parseRR p s sec) := by
  have hc : Cost p s stepsPerRecord (SectorI.parseRR p s sec) := by
    unfold SectorI.parseRR
    refine Cost.bind (Nat.le_refl 1) fun _ _ => ⟨s, Nat.le_refl _, Cost.bind (skipNameI_steps p s) fun s1 hs1 => ?_⟩
    have := (skipName_spec p s).2 s1 (skipNameI_res p s ▸ hs1)
    exact ⟨s1, Nat.le_of_succ_le this.1,
      Cost.lift_bind fun t _ => Cost.lift_bind fun l _ => rrBodyI_cost sec _ t l this.2⟩
  simp only [Lin, Cost, stepsPerByte, stepsPerRecord, nameFuel_eq] at hc ⊢
  refine ⟨by have := hc.1; omega, fun s' hs => ?_⟩
  have := (parseRR_spec sec).2 s' (parseRRI_res p s sec ▸ hs)
  have := hc.2 s' hs
  omega

theorem parseRRsI_lin {p : Bytes} (sec : Section) (n : Nat) {s : Sector} (h : s.offset ≤ p.length) :
    Lin p s (SectorI.parseRRs p sec n s) := by
  induction n generalizing s with
  | zero => exact ⟨Nat.zero_le _, fun s' hs => Res.ok.inj hs ▸ ⟨Nat.le_refl _, h, Nat.zero_le _⟩⟩
  | succ k ih =>
    have hx := parseRRI_lin (p := p) (s := s) sec
    refine ⟨hx.bind_le _ fun s1 h1 => (ih h1).1, fun s' hs => ?_⟩
    obtain ⟨s1, hr, hs1, e⟩ := bind_ok_decomp hs
    obtain ⟨b1, b2, b3⟩ := hx.2 s1 hr
    obtain ⟨c1, c2, c3⟩ := (ih b2).2 s' hs1
    refine ⟨Nat.le_trans b1 c1, c2, ?_⟩
    rw [SectorI.parseRRs, e]
    simp only [stepsPerByte] at *
    omega

/-- the question's name, then three record loops, each linear in what it consumes -/
theorem parseI_steps (p : Bytes) : (parseI p).steps ≤ 76 * p.length + 1095 := by
  unfold parseI
  refine steps_lift_bind_le _ _ _ fun _ _ => steps_lift_bind_le _ _ _ fun flags _ => steps_lift_bind_le _ _ _ fun qd _ =>
    steps_lift_bind_le _ _ _ fun _ _ => steps_lift_bind_le _ _ _ fun _ _ => steps_lift_bind_le _ _ _ fun r hr => ?_
  obtain ⟨rfl, h12⟩ := (setOffset_spec _ _ _).2 r hr
  refine Nat.le_trans (steps_bind_le _ _ nameFuel (stepsPerByte * p.length + stepsPerRecord) (parseQuestionI_steps p _)
    fun s2 hs2 => ?_) (by simp only [stepsPerByte, stepsPerRecord, nameFuel_eq]; omega)
  have h2 := (parseQuestion_spec.2 s2 (parseQuestionI_res p _ ▸ hs2)).2
  refine Nat.le_trans ?_ (Nat.add_le_add_right (Nat.mul_le_mul_left stepsPerByte (Nat.sub_le p.length s2.offset)) stepsPerRecord)
  refine steps_lift_bind_le _ _ _ fun an _ => steps_lift_bind_le _ _ _ fun _ _ => (parseRRsI_lin .answer an h2).bind_le _ fun s3 h3 => ?_
  refine steps_lift_bind_le _ _ _ fun ns _ => steps_lift_bind_le _ _ _ fun _ _ => (parseRRsI_lin .nameServers ns h3).bind_le _ fun s4 h4 => ?_
  refine steps_lift_bind_le _ _ _ fun ar _ => (parseRRsI_lin .additional ar h4).bind_le _ fun s5 _ => ?_
  exact steps_lift_bind_le _ _ _ fun _ _ => steps_lift_bind_le _ _ _ fun _ _ => Nat.zero_le _

end Dns
