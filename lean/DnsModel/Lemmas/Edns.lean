/-
  What the validator remembers about EDNS: the six summary fields are those of the single OPT record when there
  is one, and the defaults otherwise.  Also where the layout of an accepted packet is extracted from `parse`:
  `parseRRs_list`, `parse_ok_layout`.
-/
import DnsModel.Lemmas.Walk
namespace Dns
open Res Sector

/-- the EDNS part of the parser state / of the object's summary -/
structure EdnsInfo where
  start : Option Nat
  count : Nat
  extRcode : Option Nat
  version : Option Nat
  flags : Option Nat
  maxPayload : Nat
  deriving DecidableEq

def Sector.info (s : Sector) : EdnsInfo :=
  ⟨s.ednsStart, s.ednsCount, s.extRcode, s.ednsVersion, s.extFlags, s.maxPayload⟩

def View.info (v : View) : EdnsInfo :=
  ⟨v.offsetEdns, v.ednsCount, v.extRcode, v.ednsVersion, v.extFlags, v.maxPayload⟩

def EdnsInfo.none : EdnsInfo := ⟨Option.none, 0, Option.none, Option.none, Option.none, 512⟩

/-- what an OPT record whose owner name ends at `ne` and whose data holds `n` options says -/
def optInfo (p : Bytes) (ne n : Nat) : EdnsInfo :=
  ⟨some (ne + 10), n, some (getB p (ne + 4)), some (getB p (ne + 5)), some (get16 p (ne + 6)), get16 p (ne + 2)⟩

theorem parseRR_info {p : Bytes} {s s' : Sector} {sec : Section} (h : parseRR p s sec = .ok s') :
    ∃ ne, NameEnds p s.offset ne ∧
      if get16 p ne = 41 then
        ∃ n, OptionsTile p (ne + 10) (ne + 10 + get16 p (ne + 8)) n ∧ s'.info = optInfo p ne n
      else s'.info = s.info := by
  obtain ⟨ne, hn, _, _, h⟩ := parseRR_ok_iff.1 h
  refine ⟨ne, hn, ?_⟩
  by_cases t : get16 p ne = 41
  · rw [if_pos t] at h ⊢
    obtain ⟨_, _, _, n, ht, rfl⟩ := h
    exact ⟨n, ht, rfl⟩
  · rw [if_neg t] at h ⊢
    rw [h.2]
    rfl

/-- the summary after a run of records starting from summary `i` -/
inductive InfoAfter (p : Bytes) : List RecPos → EdnsInfo → EdnsInfo → Prop
  | nil (i : EdnsInfo) : InfoAfter p [] i i
  | skip {r : RecPos} {l : List RecPos} {i i' : EdnsInfo} : get16 p r.ne ≠ 41 → InfoAfter p l i i' →
      InfoAfter p (r :: l) i i'
  | opt {r : RecPos} {l : List RecPos} {i i' : EdnsInfo} {n : Nat} : get16 p r.ne = 41 →
      OptionsTile p (r.ne + 10) (r.ne + 10 + get16 p (r.ne + 8)) n → InfoAfter p l (optInfo p r.ne n) i' →
      InfoAfter p (r :: l) i i'

theorem parseRRs_list {p : Bytes} {sec : Section} (n : Nat) {s s' : Sector}
    (h : parseRRs p sec n s = .ok s') :
    ∃ l, l.length = n ∧ RRsL p sec l s.offset s.ednsEnd.isSome s'.offset s'.ednsEnd.isSome ∧
      InfoAfter p l s.info s'.info := by
  induction n generalizing s with
  | zero => simp [parseRRs] at h; subst h; exact ⟨[], rfl, RRsL.nil _ _, InfoAfter.nil _⟩
  | succ k ih =>
    unfold parseRRs at h
    obtain ⟨s1, h1, h2⟩ := bind_eq_ok.1 h
    obtain ⟨l, hl, hrl, hinf⟩ := ih h2
    obtain ⟨ne, hne, rest⟩ := parseRR_sound h1
    obtain ⟨ne', hne', hi⟩ := parseRR_info h1
    have e := nameEnds_functional hne' hne
    subst e
    refine ⟨⟨s.offset, ne', s1.offset⟩ :: l, by simp [hl], RRsL.cons ⟨hne, rest⟩ hrl, ?_⟩
    by_cases ht : get16 p ne' = 41
    · simp only [ht, if_true] at hi
      obtain ⟨m, htile, hi⟩ := hi
      rw [hi] at hinf
      exact InfoAfter.opt ht htile hinf
    · simp only [ht, if_false] at hi
      rw [hi] at hinf
      exact InfoAfter.skip ht hinf

theorem InfoAfter.no_opt {p : Bytes} {l : List RecPos} {i i' : EdnsInfo} (h : InfoAfter p l i i')
    (hno : ∀ r ∈ l, get16 p r.ne ≠ 41) : i' = i := by
  induction h with
  | nil => rfl
  | skip _ _ ih => exact ih (fun r hr => hno r (by simp [hr]))
  | opt h41 _ _ _ => exact absurd h41 (hno _ (by simp))

theorem parse_ok_layout {p : Bytes} {v : View} (h : parse p = .ok v) :
    12 ≤ p.length ∧ get16 p 4 = 1 ∧ ∃ qe la ln lr e2 o2 e3 o3 o4 i2 i3,
      NameEnds p 12 qe ∧ qe + 4 ≤ p.length ∧ get16 p (qe + 2) = 1 ∧
      la.length = get16 p 6 ∧ ln.length = get16 p 8 ∧ lr.length = get16 p 10 ∧
      RRsL p .answer la (qe + 4) false e2 o2 ∧
      RRsL p .nameServers ln e2 o2 e3 o3 ∧ RRsL p .additional lr e3 o3 p.length o4 ∧
      InfoAfter p la EdnsInfo.none i2 ∧ InfoAfter p ln i2 i3 ∧ InfoAfter p lr i3 v.info ∧
      v.offsetQuestion = some 12 ∧
      v.offsetAnswers = (if get16 p 6 > 0 then some (qe + 4) else none) ∧
      v.offsetNameservers = (if get16 p 8 > 0 then some e2 else none) ∧
      v.offsetAdditional = (if get16 p 10 > 0 then some e3 else none) := by
  obtain ⟨hl, hqd, s2, s3, s4, s5, hq, _, ha, hn, hr, hend, rfl⟩ := parse_ok_iff.1 h
  obtain ⟨qe, hqe, hq4, hcl, rfl⟩ := parseQuestion_ok_iff.1 hq
  obtain ⟨la, hla, ra, ia⟩ := parseRRs_list _ ha
  obtain ⟨ln, hln, rn, inn⟩ := parseRRs_list _ hn
  obtain ⟨lr, hlr, rr, ir⟩ := parseRRs_list _ hr
  exact ⟨hl, hqd, qe, la, ln, lr, _, _, _, _, _, _, _, hqe, hq4, hcl, hla, hln, hlr, ra, rn, hend ▸ rr, ia, inn, ir,
    rfl, rfl, rfl, rfl⟩

/-- the first OPT of a run, if any -/
def firstOpt (p : Bytes) (l : List RecPos) : Option RecPos := l.find? (fun r => get16 p r.ne == 41)

/-- the summary a run of records leaves is that of its OPT record if it has one (there is then exactly one), the
incoming summary otherwise -/
theorem info_of_run {p : Bytes} {sec : Section} {l : List RecPos} {off e : Nat} {ob oe : Bool} {i i' : EdnsInfo}
    (hl : RRsL p sec l off ob e oe) (hi : InfoAfter p l i i') :
    match firstOpt p l with
    | none => i' = i
    | some r => ∃ n, OptionsTile p (r.ne + 10) (r.ne + 10 + get16 p (r.ne + 8)) n ∧ i' = optInfo p r.ne n := by
  induction hi generalizing off ob with
  | nil => trivial
  | @skip r l i i' hne _ ih =>
    obtain ⟨-, om, -, hrest⟩ := hl.cons_inv
    rw [firstOpt, List.find?_cons_of_neg (by simpa using hne)]
    exact ih hrest
  | @opt r l i i' n h41 htile hrest' _ =>
    obtain ⟨-, om, hr, hrest⟩ := hl.cons_inv
    rw [firstOpt, List.find?_cons_of_pos (by simpa using h41)]
    exact ⟨n, htile, hrest'.no_opt (RRsL.no_opt_after ((hr.of_opt h41).2.2 ▸ hrest))⟩

end Dns
