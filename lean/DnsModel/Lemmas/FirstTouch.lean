/-
  The decompress-first step of `set_raw_name` / `delete` on an object that still has
  its parse-time flag: the object becomes the plain object of the canonical pieces and the cursor is
  carried to the same record.
-/
import DnsModel.Lemmas.SectionView
import DnsModel.Lemmas.InsertRec
namespace Dns
open Res

/-- an object as `parse` leaves it.  `e1`–`e4` are the four EDNS fields `recompute` asserts on; `offsetEdns` is
overwritten by `recompute` and `maxPayload` is never compared, so they are not part of it -/
structure Fresh (pp : PP) (p : Bytes) (v : View) : Prop where
  hp : parse p = .ok v
  pk : pp.packet = p
  mc : pp.maybeCompressed = true
  e1 : pp.ednsCount = v.ednsCount
  e2 : pp.extRcode = v.extRcode
  e3 : pp.ednsVersion = v.ednsVersion
  e4 : pp.extFlags = v.extFlags
  oq : pp.offsetQuestion = v.offsetQuestion
  oa : pp.offsetAnswers = v.offsetAnswers
  on : pp.offsetNameservers = v.offsetNameservers
  oR : pp.offsetAdditional = v.offsetAdditional

theorem fresh_ofView {p : Bytes} {v : View} (h : parse p = .ok v) : Fresh (PP.ofView p v) p v :=
  ⟨h, rfl, rfl, rfl, rfl, rfl, rfl, rfl, rfl, rfl, rfl⟩

theorem edns_fields_carried {pp : PP} {p : Bytes} {v v2 : View} (F : Fresh pp p v) (hmp : pp.maxPayload = v.maxPayload)
    {L : C03.Layout p} (o : C05.Output p L) (h2 : parse o.bytes = .ok v2) :
    pp.ednsCount = v2.ednsCount ∧ pp.extRcode = v2.extRcode ∧ pp.ednsVersion = v2.ednsVersion ∧ pp.extFlags = v2.extFlags ∧
      pp.maxPayload = v2.maxPayload := by
  obtain ⟨c1, c2, c3, c4, c5⟩ := edns_fields_preserved F.hp o h2
  exact ⟨F.e1.trans c1.symm, F.e2.trans c2.symm, F.e3.trans c3.symm, F.e4.trans c4.symm, hmp.trans c5.symm⟩

def C03.Layout.recs {p : Bytes} (L : C03.Layout p) : Section → List RecPos
  | .answer => L.answers
  | .nameServers => L.authority
  | .additional => L.additional
  | _ => []

def C05.Output.pieces {p : Bytes} {L : C03.Layout p} (o : C05.Output p L) : Section → List Bytes
  | .answer => o.pa
  | .nameServers => o.pn
  | .additional => o.pr
  | _ => []

theorem lst_eq_pieces {pp : PP} {P : PlainObj pp} {p : Bytes} {L : C03.Layout p} {o : C05.Output p L}
    (eA : P.lst .answer = o.pa) (eN : P.lst .nameServers = o.pn) (eR : P.lst .additional = o.pr) (s : Section) :
    P.lst s = o.pieces s := by
  cases s with
  | answer => exact eA
  | nameServers => exact eN
  | additional => exact eR
  | question => rfl
  | edns => rfl

/-- `RRIterator::recompute` on a record of the policy -/
theorem cursorRecompute_spec {p : Bytes} {sec : Section} {r : RecPos} {ob oa : Bool} (hr : RRAtPos p sec r ob oa)
    (c : Cursor) (hc : c.offset = some r.off) (hq : c.sec ≠ .question) :
    c.recompute p = .ok { c with nameEnd := r.ne, offsetNext := r.next } := by
  obtain ⟨⟨ls, hv⟩, h10, hnext, _, _⟩ := hr
  unfold Cursor.recompute
  have hqq : (c.sec == Section.question) = false := by simpa using hq
  simp only [hc, unwrap, bind_ok, skipName_valid hv.2.1 (by omega : r.ne < p.length), hqq, Bool.false_eq_true, if_false,
    skipRdata_eq h10, pure_eq]
  simp [hnext]

theorem recompute_of_fresh {pp : PP} {p : Bytes} {v : View} (F : Fresh pp p v) {L : C03.Layout p} (o : C05.Output p L) :
    ∃ v2, parse o.bytes = .ok v2 ∧ ({ pp with packet := o.bytes } : PP).recompute = .ok (pp.rebased o.bytes v2, none) ∧
      pp.recompute = .ok (pp.rebased o.bytes v2, none) := by
  obtain ⟨v2, h2, hrec⟩ := recompute_decompressed F.hp pp ⟨F.e1, F.e2, F.e3, F.e4⟩ F.mc o
  obtain ⟨v4, h4, hrec4⟩ := recompute_fresh F.hp pp F.pk ⟨F.e1, F.e2, F.e3, F.e4⟩ F.mc o
  obtain rfl : v4 = v2 := Res.ok.inj (h4.symm.trans h2)
  exact ⟨v4, h2, hrec, hrec4⟩

/-- the cursor carried to the record's new place -/
def Cursor.movedTo (c : Cursor) (off ne nx : Nat) : Cursor := { c with offset := some off, nameEnd := ne, offsetNext := nx }

/-- what `uncompressAt` and `iterUncompress` share: the three calls (decompress around the cursor, recompute the cursor,
recompute the sections) evaluated -/
theorem touch_parts {pp : PP} {p : Bytes} {v : View} (F : Fresh pp p v) (L : C03.Layout p) (o : C05.Output p L)
    (sec : Section) (hs : sec.isRec = true) {l1 l2 : List RecPos} {r : RecPos} {ps1 ps2 : List Bytes} {pc : Bytes}
    (hl : L.recs sec = l1 ++ r :: l2) (hp : o.pieces sec = ps1 ++ pc :: ps2) (hlen : l1.length = ps1.length)
    (c : Cursor) (hsec : c.sec = sec) :
    ∃ (v2 : View) (P : PlainObj (pp.rebased o.bytes v2)) (ne : Nat) (ob oa : Bool),
      parse o.bytes = .ok v2 ∧ P.lst .answer = o.pa ∧ P.lst .nameServers = o.pn ∧ P.lst .additional = o.pr ∧
      P.hdr = p.take 12 ∧ o.qc = (encLabels P.qls ++ [0]) ++ P.q4 ∧
      RRAtPos o.bytes sec ⟨P.start sec + ps1.flatten.length, ne, P.start sec + ps1.flatten.length + pc.length⟩ ob oa ∧
      uncompressWithPreviousOffset p r.off = .ok (o.bytes, P.start sec + ps1.flatten.length) ∧
      P.start sec + ps1.flatten.length ≤ o.bytes.length ∧
      Cursor.recompute o.bytes { c with offset := some (P.start sec + ps1.flatten.length) } =
        .ok (c.movedTo (P.start sec + ps1.flatten.length) ne (P.start sec + ps1.flatten.length + pc.length)) ∧
      recomputeSections { pp with packet := o.bytes } = .ok (pp.rebased o.bytes v2) := by
  obtain ⟨v2, h2, hrec, _⟩ := recompute_of_fresh F o
  obtain ⟨P, eA, eN, eR, eH, eQ⟩ := plainObj_of_output F.hp o h2 pp
  have hlst : P.lst sec = ps1 ++ pc :: ps2 := (lst_eq_pieces eA eN eR sec).trans hp
  obtain ⟨ne, ob, oa, hr⟩ := P.rec_at sec hs hlst
  have hpk : (pp.rebased o.bytes v2).packet = o.bytes := rfl
  rw [hpk] at hr
  refine ⟨v2, P, ne, ob, oa, h2, eA, eN, eR, eH, eQ, hr, ?_, ?_, ?_, ?_⟩
  · obtain ⟨_, _, bA, bN, bR⟩ := C05.boundaries F.hp L o
    have hqcl : o.qc.length = labSum P.qls + 1 + 4 := by
      rw [eQ]; simp only [List.length_append, P.hq4, encLabels_length, List.length_cons, List.length_nil]
    rcases Section.isRec_cases hs with rfl | rfl | rfl
    · rw [bA l1 r l2 ps1 pc ps2 hl hp hlen]
      simp only [PlainObj.start, hqcl]
      congr 2
    · rw [bN l1 r l2 ps1 pc ps2 hl hp hlen]
      simp only [PlainObj.start, hqcl, eA]
      congr 2
    · rw [bR l1 r l2 ps1 pc ps2 hl hp hlen]
      simp only [PlainObj.start, hqcl, eA, eN]
      congr 2
  · have := hr.pos_len
    simp only at this
    omega
  · have hq : c.sec ≠ .question := by rw [hsec]; exact Section.ne_question_of_isRec hs
    have := cursorRecompute_spec hr { c with offset := some (P.start sec + ps1.flatten.length) } rfl hq
    rw [this]; rfl
  · simp only [recomputeSections, hrec, bind_ok, pure_eq]

theorem uncompressAt_fresh {pp : PP} {p : Bytes} {v : View} (F : Fresh pp p v) (L : C03.Layout p) (o : C05.Output p L)
    (sec : Section) (hs : sec.isRec = true) {l1 l2 : List RecPos} {r : RecPos} {ps1 ps2 : List Bytes} {pc : Bytes}
    (hl : L.recs sec = l1 ++ r :: l2) (hp : o.pieces sec = ps1 ++ pc :: ps2) (hlen : l1.length = ps1.length)
    (c : Cursor) (hsec : c.sec = sec) (hoff : c.offset = some r.off) :
    ∃ (v2 : View) (P : PlainObj (pp.rebased o.bytes v2)) (ne : Nat) (ob oa : Bool),
      parse o.bytes = .ok v2 ∧ P.lst .answer = o.pa ∧ P.lst .nameServers = o.pn ∧ P.lst .additional = o.pr ∧
      P.hdr = p.take 12 ∧ o.qc = (encLabels P.qls ++ [0]) ++ P.q4 ∧
      RRAtPos o.bytes sec ⟨P.start sec + ps1.flatten.length, ne, P.start sec + ps1.flatten.length + pc.length⟩ ob oa ∧
      uncompressAt pp c = mOk (pp.rebased o.bytes v2) (c.movedTo (P.start sec + ps1.flatten.length) ne (P.start sec + ps1.flatten.length + pc.length)) := by
  obtain ⟨v2, P, ne, ob, oa, h2, eA, eN, eR, eH, eQ, hr, hun, hfit, hrc, hrs⟩ := touch_parts F L o sec hs hl hp hlen c hsec
  refine ⟨v2, P, ne, ob, oa, h2, eA, eN, eR, eH, eQ, hr, ?_⟩
  unfold uncompressAt
  simp only [hoff, F.pk, hun, assert, hfit, decide_true, if_true, bind_ok]
  rw [hrc]
  simp only [bind_ok, hrs, mOk]

/-- `DNSIterable::uncompress` (rr_iterator.rs): the same result -/
theorem iterUncompress_fresh {pp : PP} {p : Bytes} {v : View} (F : Fresh pp p v) (L : C03.Layout p) (o : C05.Output p L)
    (sec : Section) (hs : sec.isRec = true) {l1 l2 : List RecPos} {r : RecPos} {ps1 ps2 : List Bytes} {pc : Bytes}
    (hl : L.recs sec = l1 ++ r :: l2) (hp : o.pieces sec = ps1 ++ pc :: ps2) (hlen : l1.length = ps1.length)
    (c : Cursor) (hsec : c.sec = sec) (hoff : c.offset = some r.off) :
    ∃ (v2 : View) (P : PlainObj (pp.rebased o.bytes v2)) (ne : Nat),
      parse o.bytes = .ok v2 ∧ P.lst .answer = o.pa ∧ P.lst .nameServers = o.pn ∧ P.lst .additional = o.pr ∧
      iterUncompress pp c = mOk (pp.rebased o.bytes v2) (c.movedTo (P.start sec + ps1.flatten.length) ne (P.start sec + ps1.flatten.length + pc.length)) := by
  obtain ⟨v2, P, ne, ob, oa, h2, eA, eN, eR, eH, eQ, hr, hun, hfit, hrc, hrs⟩ := touch_parts F L o sec hs hl hp hlen c hsec
  refine ⟨v2, P, ne, h2, eA, eN, eR, ?_⟩
  unfold iterUncompress
  have hnot : (!pp.maybeCompressed) = false := by rw [F.mc]; rfl
  rw [hnot]
  simp only [Bool.false_eq_true, if_false, hoff, F.pk, hun, assert, hfit, decide_true, if_true, bind_ok, hrs]
  have : (pp.rebased o.bytes v2).packet = o.bytes := rfl
  rw [this, hrc]
  simp only [bind_ok, mOk]

theorem iterUncompress_plain (pp : PP) (c : Cursor) (h : pp.maybeCompressed = false) :
    iterUncompress pp c = .ok { pp := pp, cur := c, result := none } := by
  unfold iterUncompress
  simp [h]

theorem currentSection_fresh {pp : PP} {p : Bytes} {v : View} (F : Fresh pp p v) (L : C03.Layout p)
    (sec : Section) (hs : sec.isRec = true) {r : RecPos} (hr : r ∈ L.recs sec) (c : Cursor) (hoff : c.offset = some r.off) :
    c.currentSection pp = .ok sec := by
  have e : c.currentSection pp = c.currentSection (PP.ofView p v) := by
    unfold Cursor.currentSection
    simp only [PP.ofView, F.oq, F.oa, F.on, F.oR]
    rfl
  rw [e]
  obtain ⟨L0, _, ha, hn, hR⟩ := C03.current_section F.hp
  obtain ⟨_, ea, en, er⟩ := C05.layout_unique L0 L
  rcases Section.isRec_cases hs with rfl | rfl | rfl
  · exact ha r (ea ▸ hr) c hoff
  · exact hn r (en ▸ hr) c hoff
  · exact hR r (er ▸ hr) c hoff

theorem delete_fresh {pp : PP} {p : Bytes} {v : View} (F : Fresh pp p v) (L : C03.Layout p) (o : C05.Output p L)
    (sec : Section) (hs : sec.isRec = true) {l1 l2 : List RecPos} {r : RecPos} {ps1 ps2 : List Bytes} {pc : Bytes}
    (hl : L.recs sec = l1 ++ r :: l2) (hp : o.pieces sec = ps1 ++ pc :: ps2) (hlen : l1.length = ps1.length)
    (c : Cursor) (hsec : c.sec = sec) (hoff : c.offset = some r.off) :
    ∃ (pp' : PP) (P' : PlainObj pp') (c' : Cursor),
      deleteRR pp c = .ok { pp := pp', cur := c', result := none } ∧ c'.offset = none ∧ c'.sec = sec ∧
      P'.lst sec = ps1 ++ ps2 ∧ (∀ s, s ≠ sec → P'.lst s = o.pieces s) ∧
      o.qc = (encLabels P'.qls ++ [0]) ++ P'.q4 ∧
      (∀ k, (k + 1 < sectionCountOffset sec ∨ sectionCountOffset sec + 1 < k) → get16 P'.hdr k = get16 (p.take 12) k) := by
  obtain ⟨v2, P, ne, ob, oa, h2, eA, eN, eR, eH, eQ, hr, hun⟩ := uncompressAt_fresh F L o sec hs hl hp hlen c hsec hoff
  have hlst : P.lst sec = ps1 ++ pc :: ps2 := (lst_eq_pieces eA eN eR sec).trans hp
  have hcs := currentSection_fresh F L sec hs (r := r) (by rw [hl]; simp) c hoff
  obtain ⟨pp', P', hdel, f1, f2, f3, f4, f5, _, _⟩ := P.delete_at sec hs hlst
    (c.movedTo (P.start sec + ps1.flatten.length) ne (P.start sec + ps1.flatten.length + pc.length)) hr rfl rfl rfl
  have hcs1 : (c.movedTo (P.start sec + ps1.flatten.length) ne (P.start sec + ps1.flatten.length + pc.length)).currentSection
      (pp.rebased o.bytes v2) = .ok sec := by
    obtain ⟨h1, h2', h3⟩ := hr.pos_len
    simp only at h1 h2' h3
    exact P.currentSection_at sec hs hlst (by omega) _ rfl
  -- on an object with its flag set `delete` is the decompress-first step, then `delete` on the plain object
  have heq : deleteRR pp c = deleteRR (pp.rebased o.bytes v2)
      (c.movedTo (P.start sec + ps1.flatten.length) ne (P.start sec + ps1.flatten.length + pc.length)) := by
    have hoff1 : (c.movedTo (P.start sec + ps1.flatten.length) ne (P.start sec + ps1.flatten.length + pc.length)).offset =
        some (P.start sec + ps1.flatten.length) := rfl
    unfold deleteRR
    simp only [hoff, hoff1, Option.isNone_some, Bool.false_eq_true, if_false, hcs, hcs1, F.mc, P.mc, if_true, hun, mOk, bind_ok,
      Option.isSome_none]
  exact ⟨pp', P', _, heq.trans hdel, rfl, hsec, f1, fun s hs' => (f2 s hs').trans (lst_eq_pieces eA eN eR s),
    by rw [f3, f4]; exact eQ, fun k hk => by rw [f5 k hk, eH]⟩

end Dns
