/-
  Converse of completeness: whatever synthesises is a text of the grammar
  and the result is the wire record that text stands for; that record is one given from the inside
  (`piece_standalone` applies): owner from the host-name grammar, data of the type's shape.
-/
import DnsModel.Lemmas.SynthComplete
import DnsModel.Lemmas.Piece
namespace Dns
open Res

theorem hostname_inv {t name rest raw : Bytes} (hp : hostnameP t = some (name, rest)) (hr : rawNameFromStr name none = .ok raw) :
    t = name ++ rest ∧ ∃ ls, HostName name ls ∧ raw = encLabels ls ++ [0] := by
  obtain ⟨h1, hne, st1, h3, hnum, _⟩ := hostnameP_iff.1 hp
  refine ⟨h1, ?_⟩
  obtain ⟨_, hlen, hcase⟩ := C14.from_text_sound hr
  rcases hcase with ⟨rfl, rfl⟩ | ⟨done, cur, hname, hd, hc, hraw⟩
  · exact ⟨[], Or.inl ⟨rfl, rfl⟩, by simp [encLabels]⟩
  · rw [hname] at h3
    obtain ⟨c1, c2, c3, c4, c5⟩ := hostRun_dotted_inv done cur {} st1 rfl
      (fun l hl => ⟨(hd l hl).1, fun c hc' => ((hd l hl).2.2 c hc').1⟩) (fun c hc' => (hc.2 c hc').1) h3
    refine ⟨C14.labelsOf done cur, Or.inr ⟨done, cur, hname, c1, c2, hne, ?_, rfl, ?_⟩, ?_⟩
    · rintro ⟨rfl, hall⟩
      refine hnum ⟨?_, c3⟩
      rw [c5]
      simpa [List.all_eq_true] using hall
    · have : raw.length = labSum (C14.labelsOf done cur) + 1 := by
        rw [hraw]; by_cases h : cur = [] <;> simp [h, encLabels_length]
      omega
    · rw [hraw]; by_cases h : cur = [] <;> simp [h]

theorem ipv4P_inv {t rest ip : Bytes} (h : ipv4P t = some (ip, rest)) :
    ∃ d0 d1 d2 d3, t = (d0 ++ 46 :: (d1 ++ 46 :: (d2 ++ 46 :: d3))) ++ rest ∧ RDataText 1 (d0 ++ 46 :: (d1 ++ 46 :: (d2 ++ 46 :: d3))) ip := by
  unfold ipv4P at h
  simp only [Option.bind_eq_bind, Option.bind_eq_some_iff, Option.pure_def, Option.some.injEq, Prod.mk.injEq] at h
  obtain ⟨⟨a, i1⟩, h1, i2, t1, ⟨b, i3⟩, h2, i4, t2, ⟨c, i5⟩, h3, i6, t3, ⟨d, i7⟩, h4, hip, hrest⟩ := h
  obtain ⟨d0, e0, n0, _, v0, l0⟩ := decimalMax_inv h1
  obtain ⟨d1, e1, n1, _, v1, l1⟩ := decimalMax_inv h2
  obtain ⟨d2, e2, n2, _, v2, l2⟩ := decimalMax_inv h3
  obtain ⟨d3, e3, n3, _, v3, l3⟩ := decimalMax_inv h4
  have q1 := tokenP_inv t1
  have q2 := tokenP_inv t2
  have q3 := tokenP_inv t3
  simp only at q1 q2 q3 e0 e1 e2 e3 hrest v0 v1 v2 v3 l0 l1 l2 l3
  subst hrest
  refine ⟨d0, d1, d2, d3, by rw [e0, q1, e1, q2, e2, q3, e3]; simp, ?_⟩
  rw [← hip, v0, v1, v2, v3]
  exact RDataText.a d0 d1 d2 d3 n0 n1 n2 n3 (by omega) (by omega) (by omega) (by omega)

theorem ipv6P_inv {t rest ip : Bytes} (h : ipv6P t = some (ip, rest)) : ∃ s, t = s ++ rest ∧ RDataText 28 s ip := by
  unfold ipv6P at h
  cases ht : takeWhile1 (fun c => isHexDigit c || c == 58) t with
  | none => rw [ht] at h; simp at h
  | some x =>
    obtain ⟨s, r⟩ := x
    rw [ht] at h
    simp only [Option.map_eq_some_iff, Prod.mk.injEq] at h
    obtain ⟨a, ha, rfl, rfl⟩ := h
    obtain ⟨e, _, _, _⟩ := takeWhile1_inv ht
    obtain ⟨gs, hv, hb⟩ := ipv6FromStr_inv ha
    exact ⟨s, e, by rw [hb]; exact RDataText.aaaa s gs hv⟩

theorem not_stopF_run {f : UInt8 → Bool} {x rest : Bytes} (hx : x ≠ [] ∧ ∀ c ∈ x, f c = true) : ¬ StopF f (x ++ rest) := by
  obtain ⟨hne, hall⟩ := hx
  cases x with
  | nil => exact absurd rfl hne
  | cons c r => intro hs; have := hs c (r ++ rest) rfl; rw [hall c (by simp)] at this; exact nomatch this

theorem endP_inv {i : Bytes} (h : endP i = some ()) : Blanks i := by
  unfold endP eofP at h
  obtain ⟨a, ha, hall, _⟩ := skipWhile_inv isHws i
  split at h
  · rename_i he
    have : skipWhile isHws i = [] := by simpa using he
    rw [this] at ha
    simp at ha
    rw [ha]; exact hall
  · simp at h

/-- a digit after an accepted host name: in a label of fewer than 62 bytes the predicate would have taken it,
in a longer one it raises the format error -/
theorem hostnameP_stop_digit {t name rest : Bytes} (h : hostnameP t = some (name, rest)) : StopF isDigit rest := by
  rintro c r rfl
  obtain ⟨_, _, st1, _, _, hstop⟩ := hostnameP_iff.1 h
  obtain ⟨hf, hfe⟩ := hstop c r rfl
  cases hd : isDigit c with
  | false => rfl
  | true =>
    have h46 : (c == 46) = false := host_not_dot c (Or.inl (by simp [hostFirst, hd]))
    have hcl : (if st1.labelLen = 0 then hostFirst c = true else hostInner c = true) := by split <;> simp [hostFirst, hostInner, hd]
    rw [hostPred_eq st1 h46] at hf hfe
    by_cases hlt : st1.labelLen < 62
    · rw [if_pos ⟨hlt, hcl⟩] at hf
      exact nomatch hf
    · rw [if_neg (fun h => hlt h.1)] at hfe
      have : 62 ≤ st1.labelLen := by omega
      simp [hostInner, hd, this] at hfe

theorem blanks1_of {a rest : Bytes} (hall : ∀ c ∈ a, isHws c = true) (hne : a ≠ []) : Blanks1 a := ⟨hne, hall⟩

/-- the inline "one character satisfying `p`" steps of `commonP` -/
theorem headP_inv {p : UInt8 → Bool} {i i' : Bytes}
    (h : (match i with | c :: r => if p c = true then some r else none | [] => none) = some i') : ∃ c, i = c :: i' ∧ p c = true := by
  cases i with
  | nil => exact nomatch h
  | cons c r =>
    simp only at h
    split at h
    · cases h; exact ⟨c, rfl, ‹_›⟩
    · exact nomatch h

theorem commonP_inv {t i : Bytes} {h : RRHeader} (hc : commonP t = some (h, i)) :
    ∃ (b0 b1 ttl b2 : Bytes) (cI cN : UInt8) (b3 tw b4 : Bytes),
      t = b0 ++ (h.name ++ (b1 ++ (ttl ++ (b2 ++ (cI :: cN :: (b3 ++ (tw ++ (b4 ++ i)))))))) ∧
      Blanks b0 ∧ (∃ r, hostnameP (h.name ++ r) = some (h.name, r)) ∧ Blanks1 b1 ∧ Numeral ttl ∧ h.ttl = decVal ttl ∧
      decVal ttl ≤ 4294967295 ∧ Blanks1 b2 ∧ (cI = 73 ∨ cI = 105) ∧ (cN = 78 ∨ cN = 110) ∧ Blanks1 b3 ∧
      TypeWord tw h.rrType ∧ Blanks1 b4 := by
  unfold commonP at hc
  simp only [Option.bind_eq_bind, Option.bind_eq_some_iff, Option.pure_def, Option.some.injEq, Prod.mk.injEq] at hc
  obtain ⟨⟨name, i1⟩, hhost, ⟨ttl, i2⟩, httl, i3, hb2, i4, hI, i5, hN, i6, hb3, ⟨ts, i7⟩, htw, ty, hty, i8, hb4, hh, hi⟩ := hc
  subst hh; subst hi
  simp only at hhost httl hb2 hI hN hb3 htw hty hb4 ⊢
  obtain ⟨b0, e0, hb0, _⟩ := skipWhile_inv isHws t
  have eo : skipWhile isHws t = name ++ i1 := (hostnameP_iff.1 hhost).1
  obtain ⟨b1, e1, hb1, _⟩ := skipWhile_inv isHws i1
  obtain ⟨ds, e2, hnum, _, hv, hle⟩ := decimalMax_inv httl
  -- b1 is not empty: a digit cannot follow the owner directly
  have hb1ne : b1 ≠ [] := by
    rintro rfl
    rw [List.nil_append] at e1
    rw [e1, e2] at hhost
    exact not_stopF_run hnum (hostnameP_stop_digit hhost)
  obtain ⟨c2, rfl, hc2⟩ := headP_inv (p := isHws) hb2
  obtain ⟨b2', e3, hb2', _⟩ := skipWhile_inv isHws i3
  obtain ⟨cI, e3', hcI⟩ := headP_inv (p := fun c => c == 73 || c == 105) hI
  obtain ⟨cN, rfl, hcN⟩ := headP_inv (p := fun c => c == 78 || c == 110) hN
  obtain ⟨b3, rfl, hb3', _⟩ := skipHws1_inv hb3
  obtain ⟨rfl, htne, htall, _⟩ := takeWhile1_inv htw
  obtain ⟨b4, rfl, hb4', _⟩ := skipHws1_inv hb4
  refine ⟨b0, b1, ds, c2 :: b2', cI, cN, b3, ts, b4, ?_, hb0, ⟨_, eo ▸ hhost⟩, ⟨hb1ne, hb1⟩, hnum, hv, by omega,
    ⟨by simp, ?_⟩, by simpa using hcI, by simpa using hcN, hb3', rrTypeOfStr_iff.1 hty, hb4'⟩
  · rw [e0, eo, e1, e2, e3, e3']; simp
  · intro x hx
    rcases List.mem_cons.1 hx with rfl | hx
    · exact hc2
    · exact hb2' x hx

theorem rdataP_inv {h : RRHeader} {i rr : Bytes} (hp : rdataP h i = some (.ok rr)) :
    ∃ rdt rd b5, i = rdt ++ b5 ∧ Blanks b5 ∧ RDataText h.rrType rdt rd ∧ rrNew h rd = .ok rr := by
  obtain ⟨r, hp, hr⟩ : ∃ r, rdataP h i = some r ∧ r = .ok rr := ⟨_, hp, rfl⟩
  cases rdataP_iff.1 hp with
  | a ht hip hend =>
    obtain ⟨d0, d1, d2, d3, e, hrd⟩ := ipv4P_inv hip
    exact ⟨_, _, _, e, endP_inv hend, ht ▸ hrd, hr⟩
  | aaaa ht hip hend =>
    obtain ⟨s, e, hrd⟩ := ipv6P_inv hip
    exact ⟨s, _, _, e, endP_inv hend, ht ▸ hrd, hr⟩
  | @name n i1 ht hn hend =>
    obtain ⟨raw, hraw, hnew⟩ := bind_eq_ok.1 hr
    obtain ⟨e, ls, hhn, rfl⟩ := hostname_inv hn hraw
    exact ⟨n, _, i1, e, endP_inv hend, .name _ n ls ht hhn, hnew⟩
  | @txt vs i1 ht hq hend =>
    obtain ⟨body, e, hqt, hne⟩ := quotedP_inv hq
    rw [buildTxt_eq] at hr
    split at hr
    · exact nomatch hr
    · exact ⟨_, _, i1, e, endP_inv hend, by rw [ht]; exact .txt body vs hqt hne (by omega), by rw [txtWire_eq]; exact hr⟩
  | @mx pref i1 i2 n i3 ht hpref hb hn hend =>
    obtain ⟨p, rfl, hpn, _, rfl, hple⟩ := decimalMax_inv hpref
    obtain ⟨b, rfl, hbb, _⟩ := skipHws1_inv hb
    rw [buildMx_eq] at hr
    obtain ⟨raw, hraw, hnew⟩ := bind_eq_ok.1 hr
    obtain ⟨rfl, ls, hhn, rfl⟩ := hostname_inv hn hraw
    exact ⟨p ++ (b ++ n), _, i3, by simp only [List.append_assoc], endP_inv hend, ht ▸ .mx p b n ls hpn hple hbb hhn, hnew⟩
  | @soa ns i1 i2 ct i3 i4 a i5 b i6 c i7 d i8 e i9 i10 ht hns hb1 hct h40 ha hb hc hd he h41 hend =>
    obtain ⟨b1, rfl, hbb1, _⟩ := skipHws1_inv hb1
    obtain ⟨b2, e2, hbb2, _⟩ := skipWhile_inv isHws i3
    rw [tokenP_inv h40] at e2
    obtain ⟨w0, f0, hw0, _⟩ := skipWhile_inv isWs i4
    obtain ⟨n1, g1, hn1, s1, rfl, l1⟩ := decimalMax_inv ha
    obtain ⟨w1, f1, hw1, _⟩ := skipWhile_inv isWs i5
    obtain ⟨n2, g2, hn2, s2, rfl, l2⟩ := decimalMax_inv hb
    obtain ⟨w2, f2, hw2, _⟩ := skipWhile_inv isWs i6
    obtain ⟨n3, g3, hn3, s3, rfl, l3⟩ := decimalMax_inv hc
    obtain ⟨w3, f3, hw3, _⟩ := skipWhile_inv isWs i7
    obtain ⟨n4, g4, hn4, s4, rfl, l4⟩ := decimalMax_inv hd
    obtain ⟨w4, f4, hw4, _⟩ := skipWhile_inv isWs i8
    obtain ⟨n5, g5, hn5, _, rfl, l5⟩ := decimalMax_inv he
    obtain ⟨w5, f5, hw5, _⟩ := skipWhile_inv isWs i9
    rw [tokenP_inv h41] at f5
    -- separators between numbers are not empty: a digit cannot follow a number directly
    have sep : ∀ {i w x n y : Bytes}, StopF isDigit i → i = w ++ x → x = n ++ y → Numeral n → Spaces w → Spaces1 w := by
      rintro i w x n y hs rfl rfl hn hw
      exact ⟨by rintro rfl; exact not_stopF_run hn hs, hw⟩
    rw [buildSoa_eq] at hr
    obtain ⟨raw1, hraw1, hr⟩ := bind_eq_ok.1 hr
    obtain ⟨raw2, hraw2, hnew⟩ := bind_eq_ok.1 hr
    obtain ⟨rfl, l1', hhn1, rfl⟩ := hostname_inv hns hraw1
    obtain ⟨rfl, l2', hhn2, rfl⟩ := hostname_inv hct hraw2
    have hrd := RDataText.soa ns b1 ct b2 w0 n1 w1 n2 w2 n3 w3 n4 w4 n5 w5 l1' l2' hhn1 hbb1 hhn2 hbb2 hw0 hn1 (sep s1 f1 g2 hn2 hw1) hn2
      (sep s2 f2 g3 hn3 hw2) hn3 (sep s3 f3 g4 hn4 hw3) hn4 (sep s4 f4 g5 hn5 hw4) hn5 hw5 l1 l2 l3 l4 l5
    exact ⟨_, _, i10, by rw [e2, f0, g1, f1, g2, f2, g3, f3, g4, f4, g5, f5]; simp, endP_inv hend, ht ▸ hrd, by simpa using hnew⟩
  | @ds tag i1 i2 alg i3 i4 dt i5 i6 dg i7 ht htag hb1 halg hb2 hdt hb3 hdg hend =>
    obtain ⟨tg, rfl, htn, _, rfl, tl⟩ := decimalMax_inv htag
    obtain ⟨b1, rfl, hbb1, _⟩ := skipHws1_inv hb1
    obtain ⟨al, rfl, han, _, rfl, al'⟩ := decimalMax_inv halg
    obtain ⟨b2, rfl, hbb2, _⟩ := skipHws1_inv hb2
    obtain ⟨dtt, rfl, hdn, _, rfl, dl⟩ := decimalMax_inv hdt
    obtain ⟨b3, rfl, hbb3, _⟩ := skipHws1_inv hb3
    obtain ⟨hex, rfl, hht, hne⟩ := hexStringP_inv hdg
    exact ⟨tg ++ (b1 ++ (al ++ (b2 ++ (dtt ++ (b3 ++ hex))))), _, i7, by simp only [List.append_assoc], endP_inv hend,
      ht ▸ .ds tg b1 al b2 dtt b3 hex dg htn tl hbb1 han al' hbb2 hdn dl hbb3 hht hne, hr⟩

theorem synth_grammar {t rr : Bytes} (h : synth t = .ok rr) : RecordText t rr := by
  unfold synth at h
  cases hc : commonP t with
  | none => rw [hc] at h; simp at h
  | some x =>
    obtain ⟨hd, i⟩ := x
    rw [hc] at h
    simp only at h
    cases hr : rdataP hd i with
    | none => rw [hr] at h; simp at h
    | some r =>
      rw [hr] at h
      simp only at h
      obtain ⟨b0, b1, ttl, b2, cI, cN, b3, tw, b4, ht, hb0, ⟨rx, hown⟩, hb1, httl, hv, hle, hb2, hI, hN, hb3, htw, hb4⟩ :=
        commonP_inv hc
      obtain ⟨rdt, rd, b5, hi, hb5, hrd, hnew⟩ := rdataP_inv (h ▸ hr)
      obtain ⟨raw, hraw, hlen, hrr⟩ := rrNew_iff.1 hnew
      obtain ⟨_, ols, hhn, hls⟩ := hostname_inv hown hraw
      refine ⟨b0, hd.name, b1, ttl, b2, cI, cN, b3, tw, b4, rdt, b5, rd, ols, hd.rrType, by rw [ht, hi], hb0, hhn, hb1, httl, hle,
        hb2, hI, hN, hb3, htw, hb4, hrd, hb5, hlen, ?_⟩
      rw [hrr, hls, hv]

/-- what `piece_standalone` asks for -/
def InRecord (rr : Bytes) : Prop :=
  ∃ owner f8 rd, GoodLabels owner ∧ f8.length = 8 ∧ rd.length < 65536 ∧ get16 f8 0 ≠ 41 ∧
    RdPlainI (get16 f8 0) rd ∧ rr = (encLabels owner ++ [0]) ++ f8 ++ put16 rd.length ++ rd

theorem flatten_put16_length (gs : List Nat) : ((gs.map put16).flatten).length = 2 * gs.length := by
  induction gs with
  | nil => rfl
  | cons g gs ih => simp [put16, ih]; omega

theorem f8_facts (t ttl : Nat) (ht : t < 65536) :
    (put16 t ++ put16 CLASS_IN ++ put32 ttl).length = 8 ∧ get16 (put16 t ++ put16 CLASS_IN ++ put32 ttl) 0 = t :=
  ⟨by simp [put16, put32], get16_put16_at (A := []) (List.append_assoc ..) ht⟩

theorem hostLabel_good {l : Bytes} (h : HostLabel l) : okLabel l ∧ goodChars l = true := by
  refine ⟨C14.okLabel_of_text (textLabel_of_host h), ?_⟩
  obtain ⟨c, t, rfl, hc, ht, _⟩ := h
  unfold goodChars
  simp only [Bool.not_eq_true', List.any_eq_false]
  intro x hx
  have hx' : hostFirst x = true ∨ hostInner x = true := by
    rcases List.mem_cons.1 hx with rfl | hx
    · exact Or.inl hc
    · exact Or.inr (ht x hx)
  rw [(hostChars_ok x hx').2]
  exact Bool.false_ne_true

theorem hostName_goodLabels {n : Bytes} {ls : List (List UInt8)} (h : HostName n ls) : GoodLabels ls := by
  rcases h with ⟨_, rfl⟩ | ⟨done, cur, _, hd, hc, _, _, rfl, hlen⟩
  · exact ⟨by simp, by simp [wireLen], by simp⟩
  · have hl := C14.forall_labelsOf hd hc
    exact ⟨fun l h => (hostLabel_good (hl l h)).1, by rw [wireLen_eq]; omega, fun l h => (hostLabel_good (hl l h)).2⟩

theorem v6Text_length {s : Bytes} {gs : List Nat} (h : V6Text s gs) : gs.length = 8 := by
  cases h with
  | full gl hlen _ => simpa using hlen
  | compressed hs ts hlen _ _ => simp; omega

theorem rdataText_plain {ty : Nat} {rdt rd : Bytes} (h : RDataText ty rdt rd) : RdPlainI ty rd := by
  unfold RdPlainI
  cases h with
  | a => simp
  | aaaa s gs hv =>
    simp (decide := true) only [if_false, if_true]
    rw [flatten_put16_length, v6Text_length hv]
  | name t n ls ht hn => simp only [ht, if_true]; exact ⟨ls, hostName_goodLabels hn, rfl⟩
  | txt => simp
  | mx p b n ls _ _ _ hn =>
    simp (decide := true) only [if_false, if_true]
    exact ⟨put16 (decVal p), ls, rfl, hostName_goodLabels hn, rfl⟩
  | soa ns b1 ct b2 w0 n1 w1 n2 w2 n3 w3 n4 w4 n5 w5 l1 l2 hns _ hct =>
    simp (decide := true) only [if_false, if_true]
    exact ⟨l1, l2, _, hostName_goodLabels hns, hostName_goodLabels hct, rfl, rfl⟩
  | ds => simp

theorem recordText_inRecord {t rr : Bytes} (h : RecordText t rr) : InRecord rr := by
  obtain ⟨b0, owner, b1, ttl, b2, cI, cN, b3, tw, b4, rdt, b5, rd, ols, ty, _, _, hown, _, _, _, _, _, _, _, htw, _, hrd, _, hlen,
    rfl⟩ := h
  obtain ⟨hty, h41⟩ := typeWord_type htw
  obtain ⟨f1, f2⟩ := f8_facts ty (decVal ttl) hty
  exact ⟨ols, _, rd, hostName_goodLabels hown, f1, by omega, by rw [f2]; exact h41, by rw [f2]; exact rdataText_plain hrd, rfl⟩

theorem synth_inRecord {s rr : Bytes} (h : synth s = .ok rr) : InRecord rr := recordText_inRecord (synth_grammar h)

end Dns
