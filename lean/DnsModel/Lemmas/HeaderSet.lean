/-
  A header setter (bytes 0–3 only) on a plain object leaves the plain object with
  the new header, provided the response bit still allows the records that are there.
-/
import DnsModel.Lemmas.PlainObj
import DnsModel.Theorems.C12
namespace Dns
open Res

theorem getElem?_of_byteAt {p p' : Bytes} {j : Nat} (h : byteAt p' j = byteAt p j) : p'[j]? = p[j]? := by
  unfold byteAt at h
  cases h1 : p'[j]? with
  | none =>
    cases h2 : p[j]? with
    | none => rfl
    | some b => rw [h1, h2] at h; simp at h
  | some a =>
    cases h2 : p[j]? with
    | none => rw [h1, h2] at h; simp at h
    | some b =>
      rw [h1, h2] at h
      simp only [Option.map_some, Option.some.injEq] at h
      rw [UInt8.toNat_inj.1 h]

theorem drop_eq_of_sameExcept {p p' : Bytes} {lo hi k : Nat} (h : C12.sameExcept p p' lo hi) (hk : hi ≤ k) : p'.drop k = p.drop k := by
  apply List.ext_getElem?
  intro i
  rw [List.getElem?_drop, List.getElem?_drop]
  exact getElem?_of_byteAt (h.2 (k + i) (Or.inr (by omega)))

theorem get16_eq_of_sameExcept {p p' : Bytes} {lo hi i : Nat} (h : C12.sameExcept p p' lo hi) (hi' : hi ≤ i ∨ i + 2 ≤ lo) :
    get16 p' i = get16 p i := by
  unfold get16 getB
  rw [h.2 i (by omega), h.2 (i + 1) (by omega)]

theorem PlainObj.header_set {pp : PP} (P : PlainObj pp) (p' : Bytes) (hs : C12.sameExcept pp.packet p' 0 4)
    (hqr : get16 p' 2 / 32768 % 2 = 0 → P.A = [] ∧ P.N = []) :
    ∃ P' : PlainObj { pp with packet := p' }, P'.A = P.A ∧ P'.N = P.N ∧ P'.R = P.R ∧ P'.qls = P.qls ∧ P'.q4 = P.q4 ∧
      P'.hdr = p'.take 12 := by
  have hl := P.len
  have hlen' : p'.length = pp.packet.length := hs.1
  have hd : p'.drop 12 = pp.packet.drop 12 := drop_eq_of_sameExcept hs (by omega)
  have hH : (p'.take 12).length = 12 := by simp; omega
  have hg : ∀ i, 4 ≤ i → i + 2 ≤ 12 → get16 (p'.take 12) i = get16 P.hdr i := by
    intro i h4 h12
    rw [get16_take h12, get16_eq_of_sameExcept hs (Or.inl h4), P.hdr_get16 h12]
  have hg2 : get16 (p'.take 12) 2 = get16 p' 2 := get16_take (by omega)
  have hdrop : pp.packet.drop 12 = ((encLabels P.qls ++ [0]) ++ P.q4) ++ P.A.flatten ++ P.N.flatten ++ P.R.flatten := by
    rw [P.bytes]
    simp only [List.append_assoc]
    rw [List.drop_append_of_le_length (by rw [P.hh]; omega), List.drop_of_length_le (by rw [P.hh]; omega)]
    simp
  refine ⟨⟨p'.take 12, P.q4, P.qls, P.A, P.N, P.R, P.o2, P.o3, P.o4, hH, by rw [hg 4 (by omega) (by omega)]; exact P.hqd, P.hgq, P.hq4, P.hcl,
    P.hA, P.hN, P.hR, by rw [hg 6 (by omega) (by omega)]; exact P.hca, by rw [hg 8 (by omega) (by omega)]; exact P.hcn,
    by rw [hg 10 (by omega) (by omega)]; exact P.hcr, by rw [hg2]; exact hqr, ?_, P.oq, P.oa, P.on, P.oR, P.mc⟩, rfl, rfl, rfl, rfl, rfl, rfl⟩
  show p' = _
  conv => lhs; rw [← List.take_append_drop 12 p']
  rw [hd, hdrop]
  simp

end Dns
