/-
  Equality of names up to ASCII case, and what the dictionary's comparison
  `raw_names_eq_ignore_case` establishes about two wire names.
-/
import DnsModel.Compress
import DnsModel.Lemmas.Emit
namespace Dns
open Res

/-- labels equal up to ASCII case -/
def lsCi (a b : List (List UInt8)) : Prop := a.map lowerBytes = b.map lowerBytes

theorem lsCi.refl (a : List (List UInt8)) : lsCi a a := rfl

theorem lsCi.symm {a b : List (List UInt8)} (h : lsCi a b) : lsCi b a := Eq.symm h

theorem lsCi.trans {a b c : List (List UInt8)} (h1 : lsCi a b) (h2 : lsCi b c) : lsCi a c := Eq.trans h1 h2

theorem lsCi.append {a b c d : List (List UInt8)} (h1 : lsCi a b) (h2 : lsCi c d) : lsCi (a ++ c) (b ++ d) := by
  unfold lsCi at *
  rw [List.map_append, List.map_append, h1, h2]

theorem lowerBytes_length (l : Bytes) : (lowerBytes l).length = l.length := List.length_map _

theorem lsCi.mem {a b : List (List UInt8)} (h : lsCi a b) {l : List UInt8} (hl : l ∈ b) :
    ∃ x ∈ a, lowerBytes x = lowerBytes l :=
  List.mem_map.1 (h ▸ List.mem_map_of_mem hl)

theorem lsCi.labSum {a b : List (List UInt8)} (h : lsCi a b) : labSum a = labSum b := by
  have e : ∀ c : List (List UInt8), Dns.labSum c = ((c.map lowerBytes).map (fun l => l.length + 1)).sum := fun c => by
    rw [List.map_map]
    exact congrArg List.sum (List.map_congr_left fun l _ => by rw [Function.comp_apply, lowerBytes_length])
  rw [e a, e b, h]

theorem lsCi.okLabels {a b : List (List UInt8)} (h : lsCi a b) (ha : ∀ l ∈ a, okLabel l) : ∀ l ∈ b, okLabel l := by
  intro l hl
  obtain ⟨x, hx, e⟩ := h.mem hl
  have := congrArg List.length e
  rw [lowerBytes_length, lowerBytes_length] at this
  have hxo := ha x hx
  unfold okLabel at hxo ⊢
  rwa [← this]

theorem badChar_lower (c : UInt8) : badChar (toLowerB c).toNat = badChar c.toNat := by
  have := (by decide +kernel : ∀ b : Fin 256, badChar (toLowerB (UInt8.ofNat b.val)).toNat = badChar b.val)
    ⟨c.toNat, c.toNat_lt⟩
  rwa [UInt8.ofNat_toNat] at this

theorem goodChars_lower (l : Bytes) : goodChars (lowerBytes l) = goodChars l := by
  unfold goodChars lowerBytes
  rw [List.any_map]
  exact congrArg (!·) (congrArg (List.any l) (funext badChar_lower))

theorem lsCi.goodChars {a b : List (List UInt8)} (h : lsCi a b) (ha : ∀ l ∈ a, goodChars l = true) :
    ∀ l ∈ b, goodChars l = true := by
  intro l hl
  obtain ⟨x, hx, e⟩ := h.mem hl
  rw [← goodChars_lower, ← e, goodChars_lower]
  exact ha x hx

theorem lsCi.wireLen {a b : List (List UInt8)} (h : lsCi a b) : wireLen a = wireLen b := by
  rw [wireLen_eq, wireLen_eq, h.labSum]

theorem toLowerB_small (c : UInt8) (h : c.toNat ≤ 63) : toLowerB c = c :=
  if_neg fun hc => by omega

theorem toLowerB_le63 (c : UInt8) (h : (toLowerB c).toNat ≤ 63) : toLowerB c = c := by
  unfold toLowerB at h ⊢
  split
  · rename_i hc
    rw [if_pos hc, UInt8.toNat_ofNat'] at h
    omega
  · rfl

theorem eqLoop_label (x y r1 r2 : Bytes) (hl : x.length = y.length)
    (h : rawNamesEqLoop (x ++ r1) (y ++ r2) x.length = true) :
    lowerBytes x = lowerBytes y ∧ rawNamesEqLoop r1 r2 0 = true := by
  induction x generalizing y with
  | nil =>
    cases y with
    | nil => exact ⟨rfl, h⟩
    | cons _ _ => cases hl
  | cons a x ih =>
    cases y with
    | nil => cases hl
    | cons b y =>
      rw [List.cons_append, List.cons_append, List.length_cons, rawNamesEqLoop] at h
      split at h
      · cases h
      · rename_i hab
        rw [if_neg (by simp), Nat.add_sub_cancel] at h
        obtain ⟨h1, h2⟩ := ih y (Nat.succ.inj hl) h
        have hab' : toLowerB a = toLowerB b := by simpa [eqIgnoreCase] using hab
        exact ⟨by unfold lowerBytes at h1 ⊢; rw [List.map_cons, List.map_cons, hab', h1], h2⟩

theorem eqLoop_head {n m : Nat} {r1 r2 : Bytes} (hn : n ≤ 63) (hm : m ≤ 63)
    (h : rawNamesEqLoop (UInt8.ofNat n :: r1) (UInt8.ofNat m :: r2) 0 = true) :
    n = m ∧ (n = 0 ∨ rawNamesEqLoop r1 r2 n = true) := by
  have tn : ∀ k, k ≤ 63 → (UInt8.ofNat k).toNat = k := fun k hk => by rw [UInt8.toNat_ofNat']; omega
  rw [rawNamesEqLoop] at h
  split at h
  · cases h
  · rename_i hab
    have e1 := toLowerB_small (UInt8.ofNat n) (by rw [tn n hn]; exact hn)
    have e2 := toLowerB_small (UInt8.ofNat m) (by rw [tn m hm]; exact hm)
    have hab' : UInt8.ofNat n = UInt8.ofNat m := by simpa [eqIgnoreCase, e1, e2] using hab
    have hnm : n = m := by rw [← tn n hn, ← tn m hm, hab']
    refine ⟨hnm, ?_⟩
    rw [if_pos (show (0 == 0) = true from rfl)] at h
    split at h
    · rename_i h0
      exact Or.inl (by rw [← tn n hn, eq_of_beq h0]; rfl)
    · exact Or.inr (tn n hn ▸ h)

theorem eqLoop_sound (l1 l2 : List (List UInt8)) (t1 t2 : Bytes) (h1 : ∀ l ∈ l1, okLabel l) (h2 : ∀ l ∈ l2, okLabel l)
    (h : rawNamesEqLoop (encLabels l1 ++ 0 :: t1) (encLabels l2 ++ 0 :: t2) 0 = true) : lsCi l1 l2 := by
  induction l1 generalizing l2 with
  | nil =>
    cases l2 with
    | nil => rfl
    | cons y l2 =>
      have hy := h2 y (List.mem_cons_self ..)
      have := (eqLoop_head (n := 0) (Nat.zero_le _) hy.2 h).1
      exact absurd this (Nat.ne_of_lt hy.1)
  | cons x l1 ih =>
    have hx := h1 x (List.mem_cons_self ..)
    cases l2 with
    | nil =>
      have := (eqLoop_head (m := 0) hx.2 (Nat.zero_le _) h).1
      exact absurd this.symm (Nat.ne_of_lt hx.1)
    | cons y l2 =>
      have hy := h2 y (List.mem_cons_self ..)
      rw [encLabels, encLabels, List.cons_append, List.cons_append, List.append_assoc, List.append_assoc] at h
      obtain ⟨hlen, h0 | h⟩ := eqLoop_head hx.2 hy.2 h
      · exact absurd h0.symm (Nat.ne_of_lt hx.1)
      · obtain ⟨e1, e2⟩ := eqLoop_label x y _ _ hlen h
        have := ih l2 (fun z hz => h1 z (List.mem_cons_of_mem _ hz)) (fun z hz => h2 z (List.mem_cons_of_mem _ hz)) e2
        unfold lsCi at this ⊢
        rw [List.map_cons, List.map_cons, e1, this]

end Dns
