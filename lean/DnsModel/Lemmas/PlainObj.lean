/-
  How a pointer-free object is represented in C08–C11: header, question and three runs of
  record pieces.  `PlainObj.update` says when an object is again of this form after one section was edited;
  delete, insert and the in-place setters are instances of it.
-/
import DnsModel.Lemmas.Assemble
import DnsModel.Lemmas.Header
import DnsModel.Theorems.C05
import DnsModel.Mutate
namespace Dns
open Res

theorem Pieces.append {sec : Section} {ps qs : List Bytes} {ob om oe : Bool} (h1 : Pieces sec ps ob om) (h2 : Pieces sec qs om oe) :
    Pieces sec (ps ++ qs) ob oe := by
  induction h1 with
  | nil o => exact h2
  | cons hp _ ih => exact Pieces.cons hp (ih h2)

theorem Pieces.split {sec : Section} {ps qs : List Bytes} {ob oe : Bool} (h : Pieces sec (ps ++ qs) ob oe) :
    ∃ om, Pieces sec ps ob om ∧ Pieces sec qs om oe := by
  induction ps generalizing ob with
  | nil => exact ⟨ob, Pieces.nil _, h⟩
  | cons x ps ih =>
    cases h with
    | cons hp hrest =>
      obtain ⟨om, h1, h2⟩ := ih hrest
      exact ⟨om, Pieces.cons hp h1, h2⟩

theorem pieceOK_flags {sec : Section} {rc : Bytes} {ob oa : Bool} (h : PieceOK sec rc ob oa) :
    (ob = false ∧ oa = true ∧ sec = .additional) ∨ (oa = ob ∧ ∀ b, PieceOK sec rc b b) := by
  obtain ⟨p0, r0, hr, hc⟩ := h
  obtain ⟨h1, h2, h3, h4, h5⟩ := hr
  by_cases h41 : get16 p0 r0.ne = 41
  · rw [if_pos h41] at h5
    exact Or.inl ⟨h5.2.2.1, h5.2.2.2.1, h5.1⟩
  · rw [if_neg h41] at h5
    exact Or.inr ⟨h5.2, fun b => ⟨p0, r0, ⟨h1, h2, h3, h4, by rw [if_neg h41]; exact ⟨h5.1, rfl⟩⟩, hc⟩⟩

/-- once OPT has been seen (or where it cannot occur) the flag no longer matters -/
theorem pieces_any_flag {sec : Section} {ps : List Bytes} {ob oe : Bool} (h : Pieces sec ps ob oe)
    (hs : sec ≠ .additional ∨ ob = true) : oe = ob ∧ ∀ b, Pieces sec ps b b := by
  induction h with
  | nil o => exact ⟨rfl, fun b => Pieces.nil b⟩
  | cons hp _ ih =>
    rcases pieceOK_flags hp with ⟨hf, _, hsec⟩ | ⟨e, hall⟩
    · rcases hs with hs | hs
      · exact absurd hsec hs
      · rw [hs] at hf; cases hf
    · subst e
      obtain ⟨e2, h2⟩ := ih hs
      exact ⟨e2, fun b => Pieces.cons (hall b) (h2 b)⟩

theorem pieces_remove {sec : Section} {ps1 ps2 : List Bytes} {rc : Bytes} {ob oe : Bool}
    (h : Pieces sec (ps1 ++ rc :: ps2) ob oe) : ∃ oe', Pieces sec (ps1 ++ ps2) ob oe' := by
  obtain ⟨om, h1, h2⟩ := Pieces.split h
  cases h2 with
  | cons hp hrest =>
    rcases pieceOK_flags hp with ⟨hf, ht, _⟩ | ⟨e, _⟩
    · subst hf; subst ht
      exact ⟨false, h1.append ((pieces_any_flag hrest (Or.inr rfl)).2 false)⟩
    · subst e
      exact ⟨oe, h1.append hrest⟩

theorem patch_header {hdr rest : Bytes} (hh : hdr.length = 12) (off x : Nat) (hoff : off + 2 ≤ 12) (hx : x < 65536) :
    ∃ hdr', writeAt (hdr ++ rest) off (put16 x) = .ok (hdr' ++ rest) ∧ hdr'.length = 12 ∧ get16 hdr' off = x ∧
      ∀ k, (k + 1 < off ∨ off + 1 < k) → get16 hdr' k = get16 hdr k := by
  have hl : (put16 x).length = 2 := rfl
  have hw : writeAt hdr off (put16 x) = .ok (hdr.take off ++ put16 x ++ hdr.drop (off + 2)) :=
    writeAt_ok (p := hdr) (v := put16 x) (by omega)
  refine ⟨hdr.take off ++ put16 x ++ hdr.drop (off + 2), ?_, (writeAt_length hw).trans hh, get16_writeAt_put16 hw hx,
    fun k hk => get16_writeAt_other hw hk⟩
  rw [writeAt_ok (by rw [List.length_append]; omega), hl, List.take_append_of_le_length (by omega),
    List.drop_append_of_le_length (by omega)]
  simp only [List.append_assoc]

theorem sectionCountOffset_le (s : Section) : sectionCountOffset s + 2 ≤ 12 := by cases s <;> decide

theorem sectionCount_hdr {hdr rest : Bytes} (hh : hdr.length = 12) (s : Section) (hs : s ≠ .edns) :
    sectionCount (hdr ++ rest) s = .ok (get16 hdr (sectionCountOffset s)) := by
  have hle := sectionCountOffset_le s
  have : sectionCount (hdr ++ rest) s = be16 (hdr ++ rest) (sectionCountOffset s) := by
    cases s with
    | edns => exact absurd rfl hs
    | _ => rfl
  rw [this, be16_ok (by rw [List.length_append]; omega), get16_append_left (by omega)]

/-- `o2`, `o3`, `o4`: an OPT record has been seen by the end of the answer, authority and additional pieces (the
policy allows one, in the additional section); `get16 hdr 2 / 32768 % 2` is the QR bit -/
structure PlainObj (pp : PP) where
  hdr : Bytes
  q4 : Bytes
  qls : List (List UInt8)
  A : List Bytes
  N : List Bytes
  R : List Bytes
  o2 : Bool
  o3 : Bool
  o4 : Bool
  hh : hdr.length = 12
  hqd : get16 hdr 4 = 1
  hgq : GoodLabels qls
  hq4 : q4.length = 4
  hcl : get16 q4 2 = 1
  hA : Pieces .answer A false o2
  hN : Pieces .nameServers N o2 o3
  hR : Pieces .additional R o3 o4
  hca : get16 hdr 6 = A.length
  hcn : get16 hdr 8 = N.length
  hcr : get16 hdr 10 = R.length
  hqr : get16 hdr 2 / 32768 % 2 = 0 → A = [] ∧ N = []
  bytes : pp.packet = hdr ++ ((encLabels qls ++ [0]) ++ q4) ++ A.flatten ++ N.flatten ++ R.flatten
  oq : pp.offsetQuestion = some 12
  oa : pp.offsetAnswers = if A.length > 0 then some (12 + labSum qls + 1 + 4) else none
  on : pp.offsetNameservers = if N.length > 0 then some (12 + labSum qls + 1 + 4 + A.flatten.length) else none
  oR : pp.offsetAdditional = if R.length > 0 then some (12 + labSum qls + 1 + 4 + A.flatten.length + N.flatten.length) else none
  mc : pp.maybeCompressed = false

theorem PlainObj.wf {pp : PP} (P : PlainObj pp) : WF pp.packet := by
  rw [P.bytes]
  exact (assemble P.hdr P.q4 P.qls P.A P.N P.R P.o2 P.o3 P.o4 P.hh P.hqd P.hgq P.hq4 P.hcl P.hA P.hN P.hR P.hca P.hcn P.hcr P.hqr).1

/-- the layout of a plain object's bytes: where the question and the authority section end, the additional records are the
pieces `R` in order, and every record is its own canonical form -/
theorem PlainObj.layout {pp : PP} (P : PlainObj pp) :
    ∃ L : C03.Layout pp.packet, L.qe = 12 + labSum P.qls + 1 ∧
      L.e3 = 12 + labSum P.qls + 1 + 4 + P.A.flatten.length + P.N.flatten.length ∧ CanonRun pp.packet L.additional P.R ∧
      ∀ r ∈ L.answers ++ L.authority ++ L.additional, SelfCanon pp.packet r := by
  rw [P.bytes]
  obtain ⟨_, L, hqe, _, _, he3, _, _, _, _, _, cr, _, _, _, hself⟩ :=
    assemble P.hdr P.q4 P.qls P.A P.N P.R P.o2 P.o3 P.o4 P.hh P.hqd P.hgq P.hq4 P.hcl P.hA P.hN P.hR P.hca P.hcn P.hcr P.hqr
  exact ⟨L, hqe, he3, cr, hself⟩

theorem PlainObj.hdr_get16 {pp : PP} (P : PlainObj pp) {k : Nat} (hk : k + 2 ≤ 12) : get16 pp.packet k = get16 P.hdr k := by
  rw [P.bytes]
  simp only [List.append_assoc]
  rw [get16_append_left (by rw [P.hh]; exact hk)]

theorem PlainObj.len {pp : PP} (P : PlainObj pp) :
    pp.packet.length = 12 + labSum P.qls + 1 + 4 + P.A.flatten.length + P.N.flatten.length + P.R.flatten.length := by
  rw [P.bytes]
  simp only [List.length_append, P.hh, P.hq4, encLabels_length, List.length_cons, List.length_nil]
  omega

theorem PlainObj.o2_false {pp : PP} (P : PlainObj pp) : P.o2 = false := (pieces_any_flag P.hA (Or.inl (by decide))).1

theorem PlainObj.o3_false {pp : PP} (P : PlainObj pp) : P.o3 = false := by
  rw [(pieces_any_flag P.hN (Or.inl (by decide))).1, P.o2_false]

def Section.isRec : Section → Bool
  | .answer | .nameServers | .additional => true
  | _ => false

theorem Section.isRec_cases {s : Section} (h : s.isRec = true) : s = .answer ∨ s = .nameServers ∨ s = .additional := by
  cases s with
  | answer => exact Or.inl rfl
  | nameServers => exact Or.inr (Or.inl rfl)
  | additional => exact Or.inr (Or.inr rfl)
  | question => cases h
  | edns => cases h

theorem Section.ne_question_of_isRec {s : Section} (h : s.isRec = true) : s ≠ .question := fun e => by rw [e] at h; cases h

theorem Section.ne_edns_of_isRec {s : Section} (h : s.isRec = true) : s ≠ .edns := fun e => by rw [e] at h; cases h

def PlainObj.lst {pp : PP} (P : PlainObj pp) : Section → List Bytes
  | .answer => P.A
  | .nameServers => P.N
  | .additional => P.R
  | _ => []

def PlainObj.start {pp : PP} (P : PlainObj pp) : Section → Nat
  | .answer => 12 + labSum P.qls + 1 + 4
  | .nameServers => 12 + labSum P.qls + 1 + 4 + P.A.flatten.length
  | .additional => 12 + labSum P.qls + 1 + 4 + P.A.flatten.length + P.N.flatten.length
  | _ => 0

/-- the "OPT seen" flag before (`fin`) and after (`fout`) the pieces of a section -/
def PlainObj.fin {pp : PP} (P : PlainObj pp) : Section → Bool
  | .nameServers => P.o2
  | .additional => P.o3
  | _ => false

def PlainObj.fout {pp : PP} (P : PlainObj pp) : Section → Bool
  | .answer => P.o2
  | .nameServers => P.o3
  | .additional => P.o4
  | _ => false

theorem PlainObj.pieces {pp : PP} (P : PlainObj pp) (sec : Section) (hs : sec.isRec = true) :
    Pieces sec (P.lst sec) (P.fin sec) (P.fout sec) := by
  rcases Section.isRec_cases hs with rfl | rfl | rfl
  · exact P.hA
  · exact P.hN
  · exact P.hR

theorem PlainObj.count {pp : PP} (P : PlainObj pp) (sec : Section) (hs : sec.isRec = true) :
    get16 P.hdr (sectionCountOffset sec) = (P.lst sec).length := by
  rcases Section.isRec_cases hs with rfl | rfl | rfl
  · exact P.hca
  · exact P.hcn
  · exact P.hcr

theorem PlainObj.lst_nil_of_query {pp : PP} (P : PlainObj pp) (h0 : get16 P.hdr 2 / 32768 % 2 = 0) (sec : Section)
    (hna : sec ≠ .additional) : P.lst sec = [] := by
  cases sec with
  | answer => exact (P.hqr h0).1
  | nameServers => exact (P.hqr h0).2
  | additional => exact absurd rfl hna
  | question => rfl
  | edns => rfl

/-- what lies between the header and section `sec` -/
def PlainObj.pre {pp : PP} (P : PlainObj pp) : Section → Bytes
  | .nameServers => (encLabels P.qls ++ [0]) ++ P.q4 ++ P.A.flatten
  | .additional => (encLabels P.qls ++ [0]) ++ P.q4 ++ P.A.flatten ++ P.N.flatten
  | _ => (encLabels P.qls ++ [0]) ++ P.q4

/-- what lies after section `sec` -/
def PlainObj.post {pp : PP} (P : PlainObj pp) : Section → Bytes
  | .answer => P.N.flatten ++ P.R.flatten
  | .nameServers => P.R.flatten
  | _ => []

theorem PlainObj.bytes_at {pp : PP} (P : PlainObj pp) (sec : Section) (hs : sec.isRec = true) :
    pp.packet = P.hdr ++ P.pre sec ++ (P.lst sec).flatten ++ P.post sec := by
  rw [P.bytes]
  rcases Section.isRec_cases hs with rfl | rfl | rfl <;>
    simp only [PlainObj.pre, PlainObj.lst, PlainObj.post, List.append_assoc, List.append_nil]

theorem PlainObj.pre_length {pp : PP} (P : PlainObj pp) (sec : Section) (hs : sec.isRec = true) :
    12 + (P.pre sec).length = P.start sec := by
  rcases Section.isRec_cases hs with rfl | rfl | rfl <;>
    simp only [PlainObj.pre, PlainObj.start, List.length_append, encLabels_length, List.length_cons, List.length_nil, P.hq4] <;>
    omega

def PP.secOff (pp : PP) : Section → Option Nat
  | .question => pp.offsetQuestion
  | .answer => pp.offsetAnswers
  | .nameServers => pp.offsetNameservers
  | .additional => pp.offsetAdditional
  | .edns => pp.offsetEdns

theorem PlainObj.secOff {pp : PP} (P : PlainObj pp) (sec : Section) (hs : sec.isRec = true) :
    pp.secOff sec = if (P.lst sec).length > 0 then some (P.start sec) else none := by
  rcases Section.isRec_cases hs with rfl | rfl | rfl
  · exact P.oa
  · exact P.on
  · exact P.oR

/-- `a` lies before `b` in a packet -/
def Section.before : Section → Section → Bool
  | .question, .answer | .question, .nameServers | .question, .additional
  | .answer, .nameServers | .answer, .additional | .nameServers, .additional => true
  | _, _ => false

theorem Section.before_irrefl (s : Section) : s.before s = false := by cases s <;> rfl

theorem Section.before_cases {a b : Section} (ha : a.isRec = true) (h : a.before b = true) :
    (a = .answer ∧ b = .nameServers) ∨ (a = .answer ∧ b = .additional) ∨ (a = .nameServers ∧ b = .additional) := by
  cases a <;> cases b <;> simp [Section.isRec, Section.before] at ha h ⊢

theorem Section.before_additional {s : Section} (hs : s.isRec = true) (hna : s ≠ .additional) : s.before .additional = true := by
  rcases Section.isRec_cases hs with rfl | rfl | rfl
  · rfl
  · rfl
  · exact absurd rfl hna

theorem PlainObj.start_mono {pp : PP} (P : PlainObj pp) {a b : Section} (ha : a.isRec = true) (hab : a.before b = true) :
    P.start a + (P.lst a).flatten.length ≤ P.start b := by
  rcases Section.before_cases ha hab with ⟨rfl, rfl⟩ | ⟨rfl, rfl⟩ | ⟨rfl, rfl⟩ <;>
    simp only [PlainObj.start, PlainObj.lst] <;> omega

theorem PlainObj.lst_congr {pp pp' : PP} {P : PlainObj pp} {P' : PlainObj pp'} {sec : Section}
    (hA : sec ≠ .answer → P'.A = P.A) (hN : sec ≠ .nameServers → P'.N = P.N) (hR : sec ≠ .additional → P'.R = P.R) :
    ∀ s, s ≠ sec → P'.lst s = P.lst s := by
  intro s hne
  cases s with
  | answer => exact hA (Ne.symm hne)
  | nameServers => exact hN (Ne.symm hne)
  | additional => exact hR (Ne.symm hne)
  | question => rfl
  | edns => rfl

/-- section `sec` now holds the pieces `l'`; `f` has moved the recorded starts of the later sections by the
difference of the lengths -/
theorem PlainObj.update {pp : PP} (P : PlainObj pp) (sec : Section) (hs : sec.isRec = true) {l' : List Bytes} {o' : Bool}
    (hps : Pieces sec l' (P.fin sec) o') {hdr' : Bytes} (hh : hdr'.length = 12)
    (hcnt : get16 hdr' (sectionCountOffset sec) = l'.length)
    (hfr : ∀ k, (k + 1 < sectionCountOffset sec ∨ sectionCountOffset sec + 1 < k) → get16 hdr' k = get16 P.hdr k)
    (hqr : get16 P.hdr 2 / 32768 % 2 = 0 → sec ≠ .additional → l' = [])
    {pp' : PP} (hpk : pp'.packet = hdr' ++ P.pre sec ++ l'.flatten ++ P.post sec)
    (hq : pp'.offsetQuestion = pp.offsetQuestion) (hmc : pp'.maybeCompressed = false)
    (hown : pp'.secOff sec = if l'.length > 0 then some (P.start sec) else none)
    {f : Nat → Nat} (hf : ∀ x, P.start sec + (P.lst sec).flatten.length ≤ x → f x + (P.lst sec).flatten.length = x + l'.flatten.length)
    (hoth : ∀ s, s.isRec = true → s ≠ sec → pp'.secOff s = if sec.before s then (pp.secOff s).map f else pp.secOff s) :
    ∃ P' : PlainObj pp', P'.lst sec = l' ∧ (∀ s, s ≠ sec → P'.lst s = P.lst s) ∧ P'.qls = P.qls ∧ P'.q4 = P.q4 ∧
      P'.hdr = hdr' := by
  have later : ∀ {o : Option Nat} {n b b' : Nat}, o = (if n > 0 then some b else none) →
      P.start sec + (P.lst sec).flatten.length ≤ b → b' + (P.lst sec).flatten.length = b + l'.flatten.length →
      o.map f = if n > 0 then some b' else none := by
    intro o n b b' ho hle hb
    rw [ho]
    split
    · rw [Option.map_some]; congr 1
      have := hf b hle
      omega
    · rfl
  rcases Section.isRec_cases hs with rfl | rfl | rfl
  · have ho : o' = P.o2 := by rw [P.o2_false]; exact (pieces_any_flag hps (Or.inl (by decide))).1
    have hn := (hoth .nameServers rfl (by decide)).trans
      (later (b' := 12 + labSum P.qls + 1 + 4 + l'.flatten.length) P.on (Nat.le_refl _) (by simp only [PlainObj.lst]; omega))
    have hr := (hoth .additional rfl (by decide)).trans
      (later (b' := 12 + labSum P.qls + 1 + 4 + l'.flatten.length + P.N.flatten.length) P.oR
        (by simp only [PlainObj.start, PlainObj.lst]; omega) (by simp only [PlainObj.lst]; omega))
    refine ⟨⟨hdr', P.q4, P.qls, l', P.N, P.R, P.o2, P.o3, P.o4, hh, (hfr 4 (by decide)).trans P.hqd, P.hgq, P.hq4, P.hcl,
      ho ▸ hps, P.hN, P.hR, hcnt, (hfr 8 (by decide)).trans P.hcn, (hfr 10 (by decide)).trans P.hcr,
      fun h => ?_, ?_, hq.trans P.oq, hown, hn, hr, hmc⟩, rfl,
      PlainObj.lst_congr (fun h => absurd rfl h) (fun _ => rfl) (fun _ => rfl), rfl, rfl, rfl⟩
    · rw [hfr 2 (by decide)] at h
      exact ⟨hqr h (by decide), (P.hqr h).2⟩
    · rw [hpk]; simp only [PlainObj.pre, PlainObj.post, List.append_assoc]
  · have ho : o' = P.o3 := by
      rw [P.o3_false, ← P.o2_false]; exact (pieces_any_flag hps (Or.inl (by decide))).1
    have hr := (hoth .additional rfl (by decide)).trans
      (later (b' := 12 + labSum P.qls + 1 + 4 + P.A.flatten.length + l'.flatten.length) P.oR (Nat.le_refl _)
        (by simp only [PlainObj.lst]; omega))
    refine ⟨⟨hdr', P.q4, P.qls, P.A, l', P.R, P.o2, P.o3, P.o4, hh, (hfr 4 (by decide)).trans P.hqd, P.hgq, P.hq4, P.hcl,
      P.hA, ho ▸ hps, P.hR, (hfr 6 (by decide)).trans P.hca, hcnt, (hfr 10 (by decide)).trans P.hcr,
      fun h => ?_, ?_, hq.trans P.oq, (hoth .answer rfl (by decide)).trans P.oa, hown, hr, hmc⟩, rfl,
      PlainObj.lst_congr (fun _ => rfl) (fun h => absurd rfl h) (fun _ => rfl), rfl, rfl, rfl⟩
    · rw [hfr 2 (by decide)] at h
      exact ⟨(P.hqr h).1, hqr h (by decide)⟩
    · rw [hpk]; simp only [PlainObj.pre, PlainObj.post, List.append_assoc]
  · refine ⟨⟨hdr', P.q4, P.qls, P.A, P.N, l', P.o2, P.o3, o', hh, (hfr 4 (by decide)).trans P.hqd, P.hgq, P.hq4, P.hcl,
      P.hA, P.hN, hps, (hfr 6 (by decide)).trans P.hca, (hfr 8 (by decide)).trans P.hcn, hcnt,
      fun h => ?_, ?_, hq.trans P.oq, (hoth .answer rfl (by decide)).trans P.oa, (hoth .nameServers rfl (by decide)).trans P.on,
      hown, hmc⟩, rfl,
      PlainObj.lst_congr (fun _ => rfl) (fun _ => rfl) (fun h => absurd rfl h), rfl, rfl, rfl⟩
    · rw [hfr 2 (by decide)] at h
      exact P.hqr h
    · rw [hpk]; simp only [PlainObj.pre, PlainObj.post, List.append_assoc, List.append_nil]

theorem PlainObj.start_congr {pp pp' : PP} (P : PlainObj pp) (P' : PlainObj pp') (sec : Section) (hq : P'.qls = P.qls)
    (hl : ∀ s, s ≠ sec → P'.lst s = P.lst s) : P'.start sec = P.start sec := by
  cases sec with
  | answer => simp only [PlainObj.start, hq]
  | nameServers =>
    have h1 : P'.A = P.A := hl .answer (by decide)
    simp only [PlainObj.start, hq, h1]
  | additional =>
    have h1 : P'.A = P.A := hl .answer (by decide)
    have h2 : P'.N = P.N := hl .nameServers (by decide)
    simp only [PlainObj.start, hq, h1, h2]
  | question => rfl
  | edns => rfl

theorem PlainObj.start_additional_moved {pp pp' : PP} (P : PlainObj pp) (P' : PlainObj pp') {sec : Section} (hs : sec.isRec = true)
    (hna : sec ≠ .additional) (hq : P'.qls = P.qls) (hl : ∀ s, s ≠ sec → P'.lst s = P.lst s) :
    P'.start .additional + (P.lst sec).flatten.length = P.start .additional + (P'.lst sec).flatten.length := by
  rcases Section.isRec_cases hs with rfl | rfl | rfl
  · have h2 : P'.N = P.N := hl .nameServers (by decide)
    simp only [PlainObj.start, PlainObj.lst, hq, h2]
    omega
  · have h2 : P'.A = P.A := hl .answer (by decide)
    simp only [PlainObj.start, PlainObj.lst, hq, h2]
    omega
  · exact absurd rfl hna

/-- the object after a successful `ParsedPacket::recompute` (parsed_packet.rs) -/
def PP.rebased (pp : PP) (u : Bytes) (v2 : View) : PP :=
  { pp with packet := u, offsetQuestion := v2.offsetQuestion, offsetAnswers := v2.offsetAnswers,
            offsetNameservers := v2.offsetNameservers, offsetAdditional := v2.offsetAdditional, offsetEdns := v2.offsetEdns,
            maybeCompressed := false, cached := none }

theorem view_of_assembled (hdr q4 : Bytes) (qls : List (List UInt8)) (A N R : List Bytes) (o2 o3 o4 : Bool)
    (hh : hdr.length = 12) (hqd : get16 hdr 4 = 1) (hgq : GoodLabels qls) (hq4 : q4.length = 4) (hcl : get16 q4 2 = 1)
    (hA : Pieces .answer A false o2) (hN : Pieces .nameServers N o2 o3) (hR : Pieces .additional R o3 o4)
    (hca : get16 hdr 6 = A.length) (hcn : get16 hdr 8 = N.length) (hcr : get16 hdr 10 = R.length)
    (hqr : get16 hdr 2 / 32768 % 2 = 0 → A = [] ∧ N = []) {v : View}
    (hp : parse (hdr ++ ((encLabels qls ++ [0]) ++ q4) ++ A.flatten ++ N.flatten ++ R.flatten) = .ok v) :
    v.offsetQuestion = some 12 ∧
    v.offsetAnswers = (if A.length > 0 then some (12 + labSum qls + 1 + 4) else none) ∧
    v.offsetNameservers = (if N.length > 0 then some (12 + labSum qls + 1 + 4 + A.flatten.length) else none) ∧
    v.offsetAdditional = (if R.length > 0 then some (12 + labSum qls + 1 + 4 + A.flatten.length + N.flatten.length) else none) := by
  obtain ⟨_, L, hqe, _, he2, he3, _, _, _, ca, cn, cr, _⟩ :=
    assemble hdr q4 qls A N R o2 o3 o4 hh hqd hgq hq4 hcl hA hN hR hca hcn hcr hqr
  obtain ⟨L0, _, v1, v2, v3, v4, _, _⟩ := C03.layout_full hp
  obtain ⟨eq0, ea0, en0, er0⟩ := C05.layout_unique L0 L
  have e2 : L0.e2 = L.e2 := by
    have := L0.ha; rw [eq0] at this
    exact (this.functional L.ha (by rw [L0.na, L.na])).2
  have e3 : L0.e3 = L.e3 := by
    have := L0.hn; rw [e2] at this
    exact (this.functional L.hn (by rw [L0.nn, L.nn])).2
  rw [ea0, eq0, hqe, ← ca.length] at v2
  rw [en0, e2, he2, ← cn.length] at v3
  rw [er0, e3, he3, ← cr.length] at v4
  exact ⟨v1, v2, v3, v4⟩

/-- the parser reports the section starts a plain object holds -/
theorem PlainObj.parsed_starts {pp : PP} (P : PlainObj pp) {v : View} (hv : parse pp.packet = .ok v) :
    v.offsetQuestion = pp.offsetQuestion ∧ v.offsetAnswers = pp.offsetAnswers ∧
      v.offsetNameservers = pp.offsetNameservers ∧ v.offsetAdditional = pp.offsetAdditional := by
  rw [P.oq, P.oa, P.on, P.oR]
  exact view_of_assembled P.hdr P.q4 P.qls P.A P.N P.R P.o2 P.o3 P.o4 P.hh P.hqd P.hgq P.hq4 P.hcl P.hA P.hN P.hR P.hca P.hcn P.hcr
    P.hqr (P.bytes ▸ hv)

/-- the decompressed object is a plain object whose runs are the canonical pieces of the input's records -/
theorem plainObj_of_output {p : Bytes} {v v2 : View} (h : parse p = .ok v) {L : C03.Layout p} (o : C05.Output p L)
    (h2 : parse o.bytes = .ok v2) (pp0 : PP) :
    ∃ P : PlainObj (pp0.rebased o.bytes v2), P.A = o.pa ∧ P.N = o.pn ∧ P.R = o.pr ∧ P.hdr = p.take 12 ∧
      o.qc = (encLabels P.qls ++ [0]) ++ P.q4 := by
  obtain ⟨hl, hqd, qeW, hneW, _, hclW, hqr, _⟩ := C02.accepted_wf p v h
  have hqeW : qeW = L.qe := nameEnds_functional hneW L.hq.1
  subst hqeW
  obtain ⟨ls, hv, hqc⟩ := o.hq
  have hH : (p.take 12).length = 12 := by rw [List.length_take]; omega
  have hg16 : ∀ i, i + 2 ≤ 12 → get16 (p.take 12) i = get16 p i := fun i hi => get16_take hi
  have hq4 : ((p.drop L.qe).take 4).length = 4 := length_take_drop L.hq.2
  have hcl : get16 ((p.drop L.qe).take 4) 2 = 1 := by
    have := (agree_window p L.qe 4).get16 (i := 2) (by omega)
    rw [Nat.zero_add] at this
    rw [this]; exact hclW
  have hbytes : o.bytes = p.take 12 ++ ((encLabels ls ++ [0]) ++ (p.drop L.qe).take 4) ++ o.pa.flatten ++ o.pn.flatten ++ o.pr.flatten := by
    unfold C05.Output.bytes; rw [hqc]
  have hA := pieces_of_run L.ha o.pa o.ha
  have hN := pieces_of_run L.hn o.pn o.hn
  have hR := pieces_of_run L.hr o.pr o.hr
  have hca : get16 (p.take 12) 6 = o.pa.length := by rw [hg16 6 (by omega), ← L.na, o.ha.length]
  have hcn : get16 (p.take 12) 8 = o.pn.length := by rw [hg16 8 (by omega), ← L.nn, o.hn.length]
  have hcr : get16 (p.take 12) 10 = o.pr.length := by rw [hg16 10 (by omega), ← L.nr, o.hr.length]
  have hqd' : get16 (p.take 12) 4 = 1 := by rw [hg16 4 (by omega)]; exact hqd
  have hqr' : get16 (p.take 12) 2 / 32768 % 2 = 0 → o.pa = [] ∧ o.pn = [] := by
    intro hq
    rw [hg16 2 (by omega)] at hq
    obtain ⟨h6, h8⟩ := hqr hq
    exact ⟨List.length_eq_zero_iff.1 (by rw [o.ha.length, L.na, h6]), List.length_eq_zero_iff.1 (by rw [o.hn.length, L.nn, h8])⟩
  rw [hbytes] at h2
  obtain ⟨w1, w2, w3, w4⟩ := view_of_assembled (p.take 12) ((p.drop L.qe).take 4) ls o.pa o.pn o.pr L.o2 L.o3 L.o4 hH
    hqd' (validName_ok hv) hq4 hcl hA hN hR hca hcn hcr hqr' h2
  exact ⟨⟨p.take 12, (p.drop L.qe).take 4, ls, o.pa, o.pn, o.pr, L.o2, L.o3, L.o4, hH, hqd',
    validName_ok hv, hq4, hcl, hA, hN, hR, hca, hcn, hcr, hqr', hbytes, w1, w2, w3, w4, rfl⟩, rfl, rfl, rfl, rfl, hqc⟩

end Dns
