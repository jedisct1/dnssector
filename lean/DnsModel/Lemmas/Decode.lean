/-
  The trusted name readers compute, on a name the validator accepts, exactly the labels the declarative relation
  assigns to it: `copy_uncompressed_name` yields their pointer-free encoding and the end of the name as written;
  `raw_name_to_str` their dotted text; `RRIterator::skip_name` the end of the name.  `Labels.iterate` carries any
  such loop over a run of labels, so a reader is stepped by hand only once on a label, on a pointer and on the root.
-/
import DnsModel.Lemmas.Emit
import DnsModel.Iter
import DnsModel.Lemmas.Bits
namespace Dns
open Res

theorem list_drop_eq_cons {p : Bytes} {i b : Nat} (h : byteAt p i = some b) :
    p.drop i = UInt8.ofNat b :: p.drop (i + 1) := by
  have hi := byteAt_lt_length h
  rw [List.drop_eq_getElem_cons hi]
  simp only [byteAt, List.getElem?_eq_getElem hi, Option.map_some, Option.some.injEq] at h
  rw [← h, UInt8.ofNat_toNat]

theorem slice_label {p : Bytes} {off len : Nat} (hb : byteAt p off = some len) (hfit : off + len + 1 ≤ p.length) :
    slice p off (off + len + 1) = .ok (UInt8.ofNat len :: lab p off len) := by
  rw [slice_ok ⟨by omega, by omega⟩, list_drop_eq_cons hb, show off + len + 1 - off = len + 1 by omega]
  rfl

/-- A loop that, standing on a label, moves past it at the price of one unit of fuel and updates its state by `f`,
gets from the start of a run of labels to its end with `f` folded over the labels. -/
theorem Labels.iterate {σ α : Type} {p : Bytes} {bar off stop : Nat} {ls : List (List UInt8)}
    (hl : Labels p bar off ls stop) (loop : Nat → Nat → σ → Res α) (f : σ → List UInt8 → σ)
    (hstep : ∀ fuel o len st, off ≤ o → o + len + 1 ≤ stop → byteAt p o = some len → 1 ≤ len → len ≤ 63 →
      o + len + 1 ≤ p.length → loop (fuel + 1) o st = loop fuel (o + len + 1) (f st (lab p o len))) :
    ∀ fuel st, loop (fuel + ls.length) off st = loop fuel stop (ls.foldl f st) := by
  induction hl with
  | nil off => intro fuel st; rfl
  | @cons off len rest stop h1 h2 h3 h4 h5 hrest ih =>
    intro fuel st
    have hle := hrest.le
    exact (hstep _ off len st (Nat.le_refl _) hle h2 h3 h4 h5).trans
      (ih (fun fuel o len st ho => hstep fuel o len st (by omega)) fuel _)

theorem foldl_encLabels (ls : List (List UInt8)) (acc : Bytes) (final : Option Nat) :
    ls.foldl (fun (st : Bytes × Option Nat) l => (st.1 ++ (UInt8.ofNat l.length :: l), st.2)) (acc, final) =
      (acc ++ encLabels ls, final) := by
  induction ls generalizing acc with
  | nil => simp [encLabels]
  | cons l t ih => simp only [List.foldl_cons, ih, encLabels, List.append_assoc, List.cons_append]

theorem copyLoop_labels {p : Bytes} {bar off stop : Nat} {ls : List (List UInt8)} (hl : Labels p bar off ls stop)
    (fuel : Nat) (acc : Bytes) (final : Option Nat) :
    copyUncompressedNameLoop p (fuel + ls.length) off acc final =
      copyUncompressedNameLoop p fuel stop (acc ++ encLabels ls) final := by
  have := hl.iterate (fun fuel o (st : Bytes × Option Nat) => copyUncompressedNameLoop p fuel o st.1 st.2)
    (fun st l => (st.1 ++ (UInt8.ofNat l.length :: l), st.2))
    (fun fuel o len st _ _ hb h1 h63 hfit => by
      have hnz : (len == 0) = false := beq_false_of_ne (by omega)
      rw [copyUncompressedNameLoop]
      simp only [idx_of_byteAt hb, bind_ok, isPtr_false_of_le h63, Bool.false_eq_true, if_false,
        Nat.add_right_comm o 1 len, slice_label hb hfit, hnz, lab_length hfit])
    fuel (acc, final)
  rwa [foldl_encLabels] at this

theorem ptr_mask_eq (hi lo : Nat) (h2 : lo < 256) : (hi * 256 + lo) &&& 0x3fff = ptrTarget hi lo := by
  rw [show (0x3fff : Nat) = 2 ^ 14 - 1 from rfl, Nat.and_two_pow_sub_one_eq_mod, ptrTarget]
  omega

theorem encLabels_append (a b : List (List UInt8)) : encLabels (a ++ b) = encLabels a ++ encLabels b := by
  induction a with
  | nil => rfl
  | cons l t ih => simp [encLabels, ih]

theorem copyLoop_nameAt {p : Bytes} {bar low off refs e : Nat} {ls : List (List UInt8)}
    (hn : NameAt p bar low off refs ls e) :
    ∀ (fuel : Nat) (acc : Bytes) (final : Option Nat), low ≤ off → fuel > refs + ls.length →
      copyUncompressedNameLoop p fuel off acc final = .ok (acc ++ encLabels ls ++ [0], final.getD e) := by
  induction hn with
  | @root bar low off refs ls stop hl hs hb =>
    intro fuel acc final _ hf
    obtain ⟨n, rfl⟩ : ∃ n, fuel = n + 1 + ls.length := ⟨fuel - ls.length - 1, by omega⟩
    rw [copyLoop_labels hl, copyUncompressedNameLoop]
    simp only [idx_of_byteAt hb, bind_ok, isPtr_false_of_le (Nat.zero_le _), Bool.false_eq_true, if_false,
      slice_label hb (byteAt_lt_length hb), beq_self_eq_true, if_true, pure_eq, Nat.add_zero, lab, List.take_zero]
    rfl
  | @ptr bar low off refs ls ls' stop hi lo e' hl hs hb hhi hlob ht hnz hr hn ih =>
    intro fuel acc final hlow hf
    rw [List.length_append] at hf
    obtain ⟨n, rfl⟩ : ∃ n, fuel = n + 1 + ls.length := ⟨fuel - ls.length - 1, by omega⟩
    have hle := hl.le
    have hassert : decide (ptrTarget hi lo < stop) = true := decide_eq_true (by omega)
    rw [copyLoop_labels hl, copyUncompressedNameLoop]
    simp only [idx_of_byteAt hb, bind_ok, (isPtr_iff' hi (byteAt_lt hb)).2 hhi, if_true, be16_ok (byteAt_lt_length hlob), get16_eq_of_bytes hb hlob,
      ptr_mask_eq hi lo (byteAt_lt hlob), assert, hassert,
      ih n (acc ++ encLabels ls) (final.or (some (stop + 2))) (Nat.le_refl _) (by omega), encLabels_append,
      List.append_assoc]
    cases final <;> rfl

theorem copyUncompressedName_valid {p : Bytes} {off e : Nat} {ls : List (List UInt8)} (h : ValidName p off ls e) :
    copyUncompressedName p off = .ok (encLabels ls ++ [0], e) := by
  obtain ⟨_, hn, hw, _⟩ := h
  have hlen := length_lt_wireLen ls
  exact copyLoop_nameAt hn nameFuel [] none (Nat.le_refl _) (by rw [nameFuel_eq]; omega)

theorem Labels.length_le {p : Bytes} {bar off stop : Nat} {ls : List (List UInt8)} (h : Labels p bar off ls stop) :
    off + ls.length ≤ stop := by
  induction h with
  | nil => exact Nat.le_refl _
  | cons _ _ h3 _ _ _ ih => rw [List.length_cons]; omega

theorem NameAt.head {p : Bytes} {bar low off refs e : Nat} {ls : List (List UInt8)}
    (hn : NameAt p bar low off refs ls e) :
    ∃ ls0 stop b, Labels p bar off ls0 stop ∧ byteAt p stop = some b ∧
      (b = 0 ∧ e = stop + 1 ∨ 192 ≤ b ∧ e = stop + 2) := by
  cases hn with
  | root hl _ hb => exact ⟨_, _, _, hl, hb, .inl ⟨rfl, rfl⟩⟩
  | ptr hl _ hb hhi => exact ⟨_, _, _, hl, hb, .inr ⟨hhi, rfl⟩⟩

theorem skipFast_labels {p : Bytes} {bar off stop : Nat} {ls : List (List UInt8)} (hl : Labels p bar off ls stop)
    (hend : stop < p.length) (fuel : Nat) :
    skipNameFast p (fuel + ls.length) off = skipNameFast p fuel stop :=
  hl.iterate (fun fuel o (_ : Unit) => skipNameFast p fuel o) (fun _ _ => ())
    (fun fuel o len _ _ hle hb h1 h63 _ => by
      have hnz : (len == 0) = false := beq_false_of_ne (by omega)
      have c1 : o ≤ p.length := by omega
      have c2 : 1 ≤ p.length - o := by omega
      have c3 : decide (len < p.length - o - 1) = true := decide_eq_true (by omega)
      rw [skipNameFast]
      simp only [idx_of_byteAt hb, bind_ok, isPtr_false_of_le h63, Bool.false_eq_true, if_false, sub, c1, c2,
        if_true, assert, c3, hnz]) fuel ()

theorem skipName_valid {p : Bytes} {bar low off refs e : Nat} {ls : List (List UInt8)}
    (hn : NameAt p bar low off refs ls e) (he : e < p.length) : skipName p off = .ok e := by
  obtain ⟨ls0, stop, b, hl, hb, h⟩ := hn.head
  have hlen := hl.length_le
  obtain ⟨n, hn⟩ : ∃ n, p.length + 1 = n + 1 + ls0.length := ⟨p.length - ls0.length, by omega⟩
  have c1 : stop ≤ p.length := by omega
  rw [skipName, hn, skipFast_labels hl (by omega), skipNameFast]
  rcases h with ⟨rfl, rfl⟩ | ⟨h192, rfl⟩
  · have c2 : 1 ≤ p.length - stop := by omega
    have c3 : decide (0 < p.length - stop - 1) = true := decide_eq_true (by omega)
    simp only [idx_of_byteAt hb, bind_ok, isPtr_false_of_le (Nat.zero_le _), Bool.false_eq_true, if_false, sub, c1,
      c2, if_true, assert, c3, beq_self_eq_true, pure_eq, Nat.add_zero]
  · have c3 : decide (p.length - stop > 2) = true := decide_eq_true (by omega)
    simp only [idx_of_byteAt hb, bind_ok, (isPtr_iff' b (byteAt_lt hb)).2 h192, if_true, sub, c1, assert, c3,
      pure_eq]

/-- dotted presentation of a list of labels appended to `res` (a literal dot inside a label is escaped) -/
def joinText (res : Bytes) (ls : List (List UInt8)) : Bytes :=
  ls.foldl (fun r l => (if r.isEmpty then r else r ++ [46]) ++ escapeLabel l) res

theorem slice_lab {p : Bytes} {off len : Nat} (hfit : off + len + 1 ≤ p.length) :
    slice p (off + 1) (off + len + 1) = .ok (lab p off len) := by
  rw [slice_ok ⟨by omega, by omega⟩, Nat.add_right_comm, Nat.add_sub_cancel_left]
  rfl

theorem joinText_append (res : Bytes) (a b : List (List UInt8)) :
    joinText res (a ++ b) = joinText (joinText res a) b :=
  List.foldl_append

theorem strLoop_labels {p : Bytes} {bar off stop : Nat} {ls : List (List UInt8)} (hl : Labels p bar off ls stop)
    (fuel ind : Nat) (res : Bytes) :
    rawNameToStrLoop p (fuel + ls.length) off ind res = rawNameToStrLoop p fuel stop ind (joinText res ls) :=
  hl.iterate (fun fuel o res => rawNameToStrLoop p fuel o ind res) _
    (fun fuel o len res _ _ hb h1 h63 hfit => by
      have hnz : (len == 0) = false := beq_false_of_ne (by omega)
      rw [rawNameToStrLoop]
      simp only [idx_of_byteAt hb, bind_ok, hnz, Bool.false_eq_true, if_false, isPtr_false_of_le h63,
        slice_lab hfit, Nat.add_right_comm o 1 len]) fuel res

theorem strLoop_nameAt {p : Bytes} {bar low off refs e : Nat} {ls : List (List UInt8)}
    (hn : NameAt p bar low off refs ls e) :
    ∀ (fuel ind : Nat) (res : Bytes), low ≤ off → refs + ind ≤ 16 → fuel > refs + ls.length →
      rawNameToStrLoop p fuel off ind res = .ok (joinText res ls) := by
  induction hn with
  | @root bar low off refs ls stop hl hs hb =>
    intro fuel ind res _ _ hf
    obtain ⟨n, rfl⟩ : ∃ n, fuel = n + 1 + ls.length := ⟨fuel - ls.length - 1, by omega⟩
    rw [strLoop_labels hl, rawNameToStrLoop]
    simp only [idx_of_byteAt hb, bind_ok, beq_self_eq_true, if_true, pure_eq]
  | @ptr bar low off refs ls ls' stop hi lo e' hl hs hb hhi hlob ht hnz hr hn ih =>
    intro fuel ind res hlow hrefs hf
    rw [List.length_append] at hf
    obtain ⟨n, rfl⟩ : ∃ n, fuel = n + 1 + ls.length := ⟨fuel - ls.length - 1, by omega⟩
    have hle := hl.le
    have hnz0 : (hi == 0) = false := beq_false_of_ne (by omega)
    have c1 : (ptrTarget hi lo == stop) = false := beq_false_of_ne (by omega)
    have c2 : decide (ind > DNS_MAX_HOSTNAME_INDIRECTIONS) = false :=
      decide_eq_false (by rw [show DNS_MAX_HOSTNAME_INDIRECTIONS = 16 from rfl]; omega)
    rw [strLoop_labels hl, rawNameToStrLoop]
    simp only [idx_of_byteAt hb, bind_ok, hnz0, Bool.false_eq_true, if_false, (isPtr_iff' hi (byteAt_lt hb)).2 hhi,
      if_true, be16_ok (byteAt_lt_length hlob), get16_eq_of_bytes hb hlob, ptr_mask_eq hi lo (byteAt_lt hlob), c1, c2, Bool.or_self,
      ih n (ind + 1) (joinText res ls) (Nat.le_refl _) (by omega) (by omega), joinText_append]

theorem rawNameToStr_valid {p : Bytes} {off e : Nat} {ls : List (List UInt8)} (h : ValidName p off ls e) :
    rawNameToStr p off = .ok (joinText [] ls) := by
  obtain ⟨_, hn, hw, _⟩ := h
  have hlen := length_lt_wireLen ls
  exact strLoop_nameAt hn (nameFuel + 20) 0 [] (Nat.le_refl _) (by omega) (by rw [nameFuel_eq]; omega)

/-- labels accepted by the validator contain no dot, so nothing is escaped -/
theorem escapeLabel_good {l : List UInt8} (h : goodChars l = true) : escapeLabel l = l := by
  unfold escapeLabel
  unfold goodChars at h
  induction l with
  | nil => rfl
  | cons c t ih =>
    simp only [List.any_cons, Bool.not_or, Bool.and_eq_true, Bool.not_eq_true'] at h
    have hc : (c == 46) = false := by
      cases hcc : (c == 46) with
      | false => rfl
      | true =>
        have hceq : c = 46 := by simpa using hcc
        have := h.1
        rw [hceq] at this
        revert this; decide
    have := ih (by simpa using h.2)
    simp only [List.flatMap_cons, hc, Bool.false_eq_true, if_false]
    rw [this]
    rfl

end Dns
