/-
  The word-level action of the header setters.
-/
import DnsModel.Lemmas.Bits
namespace Dns

def setFlagsW (w a : Nat) : Nat := (w &&& (0x7800 ||| 0x000f)) ||| (((a &&& 0xffff) &&& 0x87ff) &&& 0xfff0)

def setResponseW (w : Nat) (b : Bool) : Nat := if b then w ||| DNS_FLAG_QR else w &&& 0x7fff

def setRcodeB (b rc : Nat) : Nat := (b &&& 0xf0) ||| (rc &&& 0x0f)

def setOpcodeB (b op : Nat) : Nat := (b &&& 0x87) ||| (((op <<< 3) % 256) &&& 0x78)

/-- the flag bits of the 16-bit header word: QR AA TC RD RA Z AD CD -/
def flagBit (i : Nat) : Bool := (0x87f0 : Nat).testBit i

theorem setFlagsW_bits (w a i : Nat) (hi : i < 16) :
    (setFlagsW w a).testBit i = (if flagBit i then a.testBit i else w.testBit i) := by
  have e : setFlagsW w a = (w &&& 0x780f) ||| (a &&& 0x87f0) := by
    unfold setFlagsW; rw [Nat.and_assoc, Nat.and_assoc]; rfl
  rw [e]
  exact testBit_merge (n := 16) rfl w a hi

theorem setFlagsW_lt (w a : Nat) (hw : w < 65536) : setFlagsW w a < 65536 := by
  unfold setFlagsW
  apply Nat.or_lt_two_pow (n := 16)
  · exact Nat.lt_of_le_of_lt Nat.and_le_left hw
  · exact Nat.lt_of_le_of_lt Nat.and_le_right (by decide)

theorem setResponseW_bits (w : Nat) (b : Bool) (i : Nat) (hi : i < 16) :
    (setResponseW w b).testBit i = (if i = 15 then b else w.testBit i) := by
  cases b
  · show (w &&& (2 ^ 15 - 1)).testBit i = _
    rw [Nat.testBit_and, Nat.testBit_two_pow_sub_one]
    by_cases h : i = 15
    · simp [h]
    · simp [h, (by omega : i < 15)]
  · show (w ||| 2 ^ 15).testBit i = _
    rw [Nat.testBit_or, Nat.testBit_two_pow]
    by_cases h : i = 15
    · simp [h]
    · simp [h, Ne.symm h]

theorem setResponseW_lt (w : Nat) (b : Bool) (hw : w < 65536) : setResponseW w b < 65536 := by
  unfold setResponseW
  split
  · exact Nat.or_lt_two_pow (n := 16) hw (by decide)
  · exact Nat.lt_of_le_of_lt Nat.and_le_left hw

theorem setRcodeB_lt (b rc : Nat) (hb : b < 256) : setRcodeB b rc < 256 := by
  unfold setRcodeB
  apply Nat.or_lt_two_pow (n := 8)
  · exact Nat.lt_of_le_of_lt Nat.and_le_left hb
  · exact Nat.lt_of_le_of_lt Nat.and_le_right (by decide)

theorem setOpcodeB_lt (b op : Nat) (hb : b < 256) : setOpcodeB b op < 256 := by
  unfold setOpcodeB
  apply Nat.or_lt_two_pow (n := 8)
  · exact Nat.lt_of_le_of_lt Nat.and_le_left hb
  · exact Nat.lt_of_le_of_lt Nat.and_le_right (by decide)

theorem setRcodeB_bits (b rc i : Nat) (hb : b < 256) :
    (setRcodeB b rc).testBit i = (if i < 4 then rc.testBit i else b.testBit i) := by
  by_cases hi : i < 8
  · rw [setRcodeB, testBit_merge (n := 8) rfl b rc hi]
    show (if (2 ^ 4 - 1).testBit i = true then _ else _) = _
    rw [Nat.testBit_two_pow_sub_one]
    simp
  · rw [testBit_byte (setRcodeB_lt b rc hb) (by omega), if_neg (by omega), testBit_byte hb (by omega)]

theorem setOpcodeB_bits (b op i : Nat) (hb : b < 256) :
    (setOpcodeB b op).testBit i = (if 3 ≤ i ∧ i < 7 then op.testBit (i - 3) else b.testBit i) := by
  by_cases hi : i < 8
  · have hm : (0x78 : Nat).testBit i = decide (3 ≤ i ∧ i < 7) := by
      show ((2 ^ 4 - 1) <<< 3).testBit i = _
      rw [Nat.testBit_shiftLeft, Nat.testBit_two_pow_sub_one]
      by_cases h3 : 3 ≤ i <;> simp [h3]
      omega
    have hs : ((op <<< 3) % 2 ^ 8).testBit i = (decide (3 ≤ i) && op.testBit (i - 3)) := by
      rw [Nat.testBit_mod_two_pow, Nat.testBit_shiftLeft]; simp [hi]
    rw [setOpcodeB, testBit_merge (n := 8) rfl b _ hi, hm]
    by_cases h : 3 ≤ i ∧ i < 7
    · simpa [h, h.1] using hs
    · simp [h]
  · rw [testBit_byte (setOpcodeB_lt b op hb) (by omega), if_neg (by omega), testBit_byte hb (by omega)]

end Dns
