/-
  Compressing the question and a whole section of a pointer-free packet; and that
  a record which is its own canonical form (what decompression produces) is pointer-free (`PlainRec`).
-/
import DnsModel.Lemmas.CompressRec
import DnsModel.Lemmas.CanonRun
namespace Dns
open Res

/-- records of `B` are the records of `u`, one by one, up to the case of names -/
inductive RunCi (u B : Bytes) : List RecPos → List RecPos → Prop
  | nil : RunCi u B [] []
  | cons {r r' : RecPos} {l l' : List RecPos} : RecCi u r B r' → RunCi u B l l' → RunCi u B (r :: l) (r' :: l')

theorem RunCi.length {u B : Bytes} {l l' : List RecPos} (h : RunCi u B l l') : l'.length = l.length := by
  induction h with
  | nil => rfl
  | cons _ _ ih => simp [ih]

/-- folding an item function over the records of a section: if each item appends a record of the policy related
by `R` to the input record (no longer than it, if `bounded`) or fails with `ee` on a `Bad` record, the fold appends
a run of records related by `Run` or fails with `ee` on some bad record -/
theorem fold_records {pp : PP} {sec : Section} {f : SuffixDict × Bytes → Cursor → Res (SuffixDict × Bytes)}
    {R : RecPos → Bytes → RecPos → Prop} {Run : List RecPos → Bytes → List RecPos → Prop} {Bad : RecPos → Prop}
    {bounded : Prop} {ee : Err} (hnil : ∀ B, Run [] B [])
    (hcons : ∀ {r r' l l' B}, R r B r' → Run l B l' → Run (r :: l) B (r' :: l'))
    {l : List RecPos} {off e : Nat} {ob oe : Bool} (hl : RRsL pp.packet sec l off ob e oe) :
    (∀ r ∈ l, ∀ {ob oa : Bool}, RRAtPos pp.packet sec r ob oa → ∀ c, posOf c = some r → ∀ dict out, DictInv dict out →
      (∃ (dict' : SuffixDict) (piece : Bytes), f (dict, out) c = .ok (dict', out ++ piece) ∧
        (bounded → piece.length ≤ r.next - r.off) ∧ DictInv dict' (out ++ piece) ∧
        ∀ tl : Bytes, ∃ ne', RRAtPos (out ++ piece ++ tl) sec ⟨out.length, ne', out.length + piece.length⟩ ob oa ∧
          get16 (out ++ piece ++ tl) ne' = get16 pp.packet r.ne ∧
          R r (out ++ piece ++ tl) ⟨out.length, ne', out.length + piece.length⟩) ∨
      (f (dict, out) c = .err ee ∧ Bad r)) →
    ∀ (cs : List Cursor), cs.map posOf = l.map some → ∀ (dict : SuffixDict) (out : Bytes), DictInv dict out →
      (∃ (dict' : SuffixDict) (em : Bytes), foldRes f (dict, out) cs = .ok (dict', out ++ em) ∧
        (bounded → em.length ≤ e - off) ∧ DictInv dict' (out ++ em) ∧
        ∀ tl : Bytes, ∃ l', RRsL (out ++ em ++ tl) sec l' out.length ob (out.length + em.length) oe ∧
          Run l (out ++ em ++ tl) l' ∧
          l'.map (fun r => get16 (out ++ em ++ tl) r.ne) = l.map (fun r => get16 pp.packet r.ne)) ∨
      (foldRes f (dict, out) cs = .err ee ∧ ∃ r ∈ l, Bad r) := by
  induction hl with
  | nil off o =>
    intro _ cs hcs dict out hinv
    obtain rfl : cs = [] := List.map_eq_nil_iff.1 (hcs.trans List.map_nil)
    refine Or.inl ⟨dict, [], ?_, fun _ => Nat.zero_le _, ?_, fun tl => ⟨[], ?_, hnil _, ?_⟩⟩
    · rw [List.append_nil]
      rfl
    · rwa [List.append_nil]
    · rw [List.length_nil, Nat.add_zero]
      exact RRsL.nil _ _
    · rw [List.map_nil, List.map_nil]
  | @cons r l e ob om oe hr hrest ih =>
    intro hitem cs hcs dict out hinv
    cases cs with
    | nil => cases hcs
    | cons c cs =>
      rw [List.map_cons, List.map_cons, List.cons.injEq] at hcs
      rcases hitem r List.mem_cons_self hr c hcs.1 dict out hinv with ⟨dict1, piece, hrun, hlen, hd1, hrec⟩ | ⟨herr, hbad⟩
      · rcases ih (fun x hx => hitem x (List.mem_cons_of_mem _ hx)) cs hcs.2 dict1 (out ++ piece) hd1 with
          ⟨dict', em, hfold, hlen', hd', hall⟩ | ⟨herr, r', hr', hbad⟩
        · refine Or.inl ⟨dict', piece ++ em, ?_, fun hb => ?_, List.append_assoc out piece em ▸ hd', fun tl => ?_⟩
          · rw [foldRes, hrun, ← List.append_assoc]
            exact hfold
          · have h1 := hlen hb
            have h2 := hlen' hb
            have hspan : r.off < r.next := by
              have := hr.1.choose_spec.2.1.lt
              have := hr.2.2.1
              omega
            rw [List.length_append]
            have := hrest.bounds.1
            omega
          · obtain ⟨l', hrl, hci, hty⟩ := hall tl
            obtain ⟨ne', hr', hty', hci'⟩ := hrec (em ++ tl)
            rw [List.append_assoc (out ++ piece)] at hrl hci hty
            rw [List.length_append] at hrl
            rw [← List.append_assoc out, List.append_assoc (out ++ piece), List.length_append, ← Nat.add_assoc]
            exact ⟨_ :: l', RRsL.cons hr' hrl, hcons hci' hci, by rw [List.map_cons, List.map_cons, hty', hty]⟩
        · exact Or.inr ⟨by rw [foldRes, hrun]; exact herr, r', List.mem_cons_of_mem _ hr', hbad⟩
      · exact Or.inr ⟨by rw [foldRes, herr]; rfl, r, List.mem_cons_self, hbad⟩

theorem fold_compress {pp : PP} {sec : Section} {l : List RecPos} {off e : Nat} {ob oe : Bool}
    (hl : RRsL pp.packet sec l off ob e oe) :
    (∀ r ∈ l, PlainRec pp.packet r) → ∀ (cs : List Cursor), cs.map posOf = l.map some →
      ∀ (dict : SuffixDict) (out : Bytes), DictInv dict out →
      ∃ (dict' : SuffixDict) (em : Bytes),
        foldRes (compressItem pp true) (dict, out) cs = .ok (dict', out ++ em) ∧
        em.length ≤ e - off ∧ DictInv dict' (out ++ em) ∧
        ∀ tl : Bytes, ∃ l', RRsL (out ++ em ++ tl) sec l' out.length ob (out.length + em.length) oe ∧
          RunCi pp.packet (out ++ em ++ tl) l l' ∧
          l'.map (fun r => get16 (out ++ em ++ tl) r.ne) = l.map (fun r => get16 pp.packet r.ne) := by
  intro hp cs hcs dict out hinv
  rcases fold_records (R := fun r B r' => RecCi pp.packet r B r') (Run := fun l B l' => RunCi pp.packet B l l')
      (Bad := fun _ => False) (bounded := True) (ee := .invalidName) (fun _ => RunCi.nil) RunCi.cons hl
      (fun r hr _ _ hrr c hc dict out hinv =>
        let ⟨d, piece, h1, h2, h3⟩ := compress_record hrr (hp r hr) c hc dict out hinv
        Or.inl ⟨d, piece, h1, fun _ => h2, h3⟩)
      cs hcs dict out hinv with ⟨d, em, h1, h2, h3⟩ | ⟨_, _, _, hf⟩
  · exact ⟨d, em, h1, h2 trivial, h3⟩
  · exact hf.elim

theorem compressItem_question (pp : PP) {qe : Nat} (hq4 : qe + 4 ≤ pp.packet.length) (dict : SuffixDict) (out : Bytes) :
    compressItem pp false (dict, out) ⟨.question, some 12, qe + 4, qe, 0⟩ =
      copyCompressedName dict out pp.packet 12 >>= fun r => .ok (r.1, r.2.1 ++ (pp.packet.drop qe).take 4) := by
  have hsl : sliceFrom pp.packet qe = .ok (pp.packet.drop qe) := sliceFrom_ok (Nat.le_trans (Nat.le_add_right _ _) hq4)
  unfold compressItem compressRdata
  simp only [unwrap, bind_ok, Bool.false_eq_true, if_false, hsl, DNS_RR_QUESTION_HEADER_SIZE,
    slice_ok ⟨Nat.le_add_right _ _, hq4⟩, Nat.add_sub_cancel_left, pure_eq]

theorem compress_question {pp : PP} {qe : Nat} {ls : List (List UInt8)} (hpl : PlainAt pp.packet 12 ls)
    (hq4 : qe + 4 ≤ pp.packet.length) (dict : SuffixDict) (out : Bytes)
    (hinv : DictInv dict out) :
    ∃ (dict' : SuffixDict) (em : Bytes) (ls' : List (List UInt8)),
      compressItem pp false (dict, out) ⟨.question, some 12, qe + 4, qe, 0⟩ =
        .ok (dict', out ++ (em ++ (pp.packet.drop qe).take 4)) ∧
      em.length ≤ labSum ls + 1 ∧ 0 < em.length ∧ lsCi ls' ls ∧
      DictInv dict' (out ++ (em ++ (pp.packet.drop qe).take 4)) ∧
      ∀ tl : Bytes, ValidName (out ++ (em ++ (pp.packet.drop qe).take 4) ++ tl) out.length ls' (out.length + em.length) := by
  obtain ⟨dict', em, hrun, hle, hpos, hall⟩ := copyName_any hpl dict out.length out rfl hinv
  have hrun := hrun out rfl
  obtain ⟨hd, ls', hci, hval⟩ := hall out rfl hinv
  refine ⟨dict', em, ls', ?_, hle, hpos, hci, List.append_assoc out em _ ▸ hd.append _, fun tl => ?_⟩
  · rw [compressItem_question pp hq4, hrun, bind_ok, List.append_assoc]
  · have := hval ((pp.packet.drop qe).take 4 ++ tl)
    rwa [← List.append_assoc, List.append_assoc out] at this

theorem compress_question_first {pp : PP} {qe : Nat} {ls : List (List UInt8)} (hpl : PlainAt pp.packet 12 ls)
    (hq4 : qe + 4 ≤ pp.packet.length) (out : Bytes)
    {dict' : SuffixDict} {em : Bytes}
    (h : compressItem pp false ({}, out) ⟨.question, some 12, qe + 4, qe, 0⟩ =
        .ok (dict', out ++ (em ++ (pp.packet.drop qe).take 4))) : em = encLabels ls ++ [0] := by
  obtain ⟨d1, hfirst⟩ := copyName_first hpl out
  rw [compressItem_question pp hq4, hfirst, bind_ok, ok.injEq, Prod.mk.injEq, List.append_assoc] at h
  exact (List.append_cancel_right (List.append_cancel_left h.2)).symm

theorem plainAt_of_window {u : Bytes} {off : Nat} {ls : List (List UInt8)} {rest : Bytes} {n : Nat}
    (h : (u.drop off).take n = (encLabels ls ++ [0]) ++ rest)
    (hf : (∀ l ∈ ls, okLabel l) ∧ wireLen ls ≤ 255 ∧ ∀ l ∈ ls, goodChars l = true) : PlainAt u off ls := by
  refine ⟨?_, hf⟩
  have hlen : labSum ls + 1 ≤ n := by
    have := congrArg List.length h
    rw [List.length_append, encLen_eq, List.length_take] at this
    omega
  have := congrArg (List.take (labSum ls + 1)) h
  rw [List.take_take, Nat.min_eq_left hlen] at this
  rw [this, ← encLen_eq, List.take_append_length]

theorem plainRd_of_canon {u : Bytes} {t l rs : Nat} (hfit : rs + l ≤ u.length) (hc : RdCanon u t l rs ((u.drop rs).take l)) :
    PlainRd u t l rs := by
  have hlen : ∀ {w : Bytes}, (u.drop rs).take l = w → l = w.length := fun e => by rw [← e, length_take_drop hfit]
  rcases rdClass t with ht | rfl | rfl | ⟨h1, h2, h3⟩
  · obtain ⟨ls, hv, e⟩ := (RdCanon.name_iff ht).1 hc
    exact (PlainRd.name_iff ht).2 ⟨ls, plainAt_of_window (rest := []) (e.trans (List.append_nil _).symm) (validName_ok hv),
      (hlen e).trans (encLen_eq ls)⟩
  · obtain ⟨ls, hv, e⟩ := RdCanon.mx_iff.1 hc
    have hp2 : ((u.drop rs).take 2).length = 2 := length_take_drop (by have := hv.1; omega)
    have e5 := window_shift e
    rw [hp2] at e5
    refine PlainRd.mx_iff.2 ⟨ls, plainAt_of_window (rest := []) (e5.trans (List.append_nil _).symm) (validName_ok hv), ?_⟩
    rw [hlen e, List.length_append, hp2, encLen_eq]
  · obtain ⟨l1, l2, e1, hv1, hv2, e⟩ := RdCanon.soa_iff.1 hc
    have hm : ((u.drop (rs + l - 20)).take 20).length = 20 :=
      length_take_drop (by have := hv2.2.1.lt; have := hv1.2.1.lt; have := hv2.1; omega)
    rw [List.append_assoc] at e
    have e5 := window_shift e
    rw [encLen_eq] at e5
    refine PlainRd.soa_iff.2 ⟨l1, l2, plainAt_of_window e (validName_ok hv1), plainAt_of_window e5 (validName_ok hv2), ?_⟩
    rw [hlen e]
    simp only [List.length_append, hm, encLabels_length, List.length_cons, List.length_nil]
    omega
  · rw [PlainRd, if_neg h1, if_neg h2, if_neg h3]
    trivial

theorem plainRec_of_selfCanon {u : Bytes} {sec : Section} {r : RecPos} {ob oa : Bool} (hr : RRAtPos u sec r ob oa)
    (hs : SelfCanon u r) : PlainRec u r := by
  obtain ⟨owner, rd, hvo, hrd, hbytes⟩ := hs
  obtain ⟨_, h10, hnext, hfit, _⟩ := hr
  have hf8 : ((u.drop r.ne).take 8).length = 8 := length_take_drop (by omega)
  have hb1 : (u.drop r.off).take (r.next - r.off) = (encLabels owner ++ [0]) ++ ((u.drop r.ne).take 8 ++ put16 rd.length ++ rd) := by
    rw [hbytes]
    simp only [List.append_assoc]
  have hpo : PlainAt u r.off owner := plainAt_of_window hb1 (validName_ok hvo)
  have hne : r.ne = r.off + (labSum owner + 1) := by
    have := (validName_functional hvo hpo.valid).2
    omega
  have hb2 := window_shift hb1
  rw [encLen_eq, ← hne, List.append_assoc] at hb2
  have hb3 := window_shift hb2
  have hspan : r.next - r.off - (labSum owner + 1) - ((u.drop r.ne).take 8).length = 2 + get16 u (r.ne + 8) := by omega
  rw [hspan] at hb3
  have hb4 := window_shift hb3
  have e10 : r.ne + ((u.drop r.ne).take 8).length + (put16 rd.length).length = r.ne + 10 := by rw [hf8]; rfl
  have e2 : 2 + get16 u (r.ne + 8) - (put16 rd.length).length = get16 u (r.ne + 8) :=
    Nat.add_sub_cancel_left 2 _
  rw [e10, e2] at hb4
  exact ⟨owner, hpo, hne, plainRd_of_canon (hnext ▸ hfit) (hb4 ▸ hrd)⟩

end Dns
