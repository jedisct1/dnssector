/-
  A packet put together from a header, a question and lists of record pieces
  (each piece the canonical form of some record of the policy) satisfies the acceptance policy, and
  its layout is the pieces in order.
-/
import DnsModel.Lemmas.Piece
namespace Dns
open Res

/-- `rc` is the canonical form of some record of section `sec` (in some packet), with OPT flags `ob → oa` -/
def PieceOK (sec : Section) (rc : Bytes) (ob oa : Bool) : Prop :=
  ∃ (p0 : Bytes) (r0 : RecPos), RRAtPos p0 sec r0 ob oa ∧ RecCanon p0 r0 rc

/-- the two `Bool`s thread the "OPT seen" flag -/
inductive Pieces (sec : Section) : List Bytes → Bool → Bool → Prop
  | nil (o : Bool) : Pieces sec [] o o
  | cons {rc : Bytes} {ps : List Bytes} {ob om oe : Bool} : PieceOK sec rc ob om → Pieces sec ps om oe →
      Pieces sec (rc :: ps) ob oe

theorem pieces_of_run {p : Bytes} {sec : Section} {l : List RecPos} {off e : Nat} {ob oe : Bool}
    (hl : RRsL p sec l off ob e oe) : ∀ ps, CanonRun p l ps → Pieces sec ps ob oe := by
  induction hl with
  | nil off o => intro ps h; cases h; exact Pieces.nil o
  | cons hr _ ih =>
    intro ps h
    cases h with
    | cons hc hrest => exact Pieces.cons ⟨_, _, hr, hc⟩ (ih _ hrest)

theorem pieces_placed {sec : Section} {ps : List Bytes} {ob oe : Bool} (h : Pieces sec ps ob oe) :
    ∀ (pre post : Bytes),
      ∃ l',
        RRsL (pre ++ ps.flatten ++ post) sec l' pre.length ob (pre.length + ps.flatten.length) oe ∧
        CanonRun (pre ++ ps.flatten ++ post) l' ps ∧ l'.map (·.off) = starts pre.length ps ∧
        ∀ r' ∈ l', SelfCanon (pre ++ ps.flatten ++ post) r' := by
  induction h with
  | nil o =>
    intro pre post
    refine ⟨[], ?_, CanonRun.nil, by simp [starts], by simp⟩
    have e : pre.length + ([] : List Bytes).flatten.length = pre.length := by simp
    rw [e]
    exact RRsL.nil _ _
  | @cons rc ps ob om oe hp _ ih =>
    intro pre post
    obtain ⟨p0, r0, hr, hrc⟩ := hp
    have eu : pre ++ (rc :: ps).flatten ++ post = pre ++ rc ++ (ps.flatten ++ post) := by simp
    have eu' : pre ++ (rc :: ps).flatten ++ post = (pre ++ rc) ++ ps.flatten ++ post := by simp
    obtain ⟨ne', hr', hc', _⟩ := canon_placed hr hrc pre (ps.flatten ++ post)
    obtain ⟨l', hrl, hcr, hoffs, hself⟩ := ih (pre ++ rc) post
    have hwin := window_eq (u := pre ++ rc ++ (ps.flatten ++ post)) (A := pre) (w := rc) (B := ps.flatten ++ post) rfl
    rw [← eu] at hr' hc' hwin
    rw [← eu'] at hrl hcr hself
    have hl1 : (pre ++ rc).length = pre.length + rc.length := by simp
    rw [hl1] at hrl hoffs
    refine ⟨⟨pre.length, ne', pre.length + rc.length⟩ :: l', ?_, CanonRun.cons hc' hcr, ?_, ?_⟩
    · have e2 : pre.length + (rc :: ps).flatten.length = pre.length + rc.length + ps.flatten.length := by simp; omega
      rw [e2]
      exact RRsL.cons hr' hrl
    · simp [starts, hoffs]
    · intro r' hr''
      simp at hr''
      rcases hr'' with rfl | hr''
      · unfold SelfCanon
        simp only
        have e : pre.length + rc.length - pre.length = rc.length := by omega
        rw [e, hwin]
        exact hc'
      · exact hself r' hr''

theorem assemble (hdr q4 : Bytes) (qls : List (List UInt8)) (A N R : List Bytes) (o2 o3 o4 : Bool)
    (hh : hdr.length = 12) (hqd : get16 hdr 4 = 1) (hgq : GoodLabels qls) (hq4 : q4.length = 4) (hcl : get16 q4 2 = 1)
    (hA : Pieces .answer A false o2) (hN : Pieces .nameServers N o2 o3) (hR : Pieces .additional R o3 o4)
    (hca : get16 hdr 6 = A.length) (hcn : get16 hdr 8 = N.length) (hcr : get16 hdr 10 = R.length)
    (hqr : get16 hdr 2 / 32768 % 2 = 0 → A = [] ∧ N = []) :
    let p := hdr ++ ((encLabels qls ++ [0]) ++ q4) ++ A.flatten ++ N.flatten ++ R.flatten
    WF p ∧ ∃ L : C03.Layout p, L.qe = 12 + labSum qls + 1 ∧ ValidName p 12 qls L.qe ∧
      L.e2 = 12 + labSum qls + 1 + 4 + A.flatten.length ∧ L.e3 = 12 + labSum qls + 1 + 4 + A.flatten.length + N.flatten.length ∧
      L.o2 = o2 ∧ L.o3 = o3 ∧ L.o4 = o4 ∧
      CanonRun p L.answers A ∧ CanonRun p L.authority N ∧ CanonRun p L.additional R ∧
      L.answers.map (·.off) = starts (12 + labSum qls + 1 + 4) A ∧
      L.authority.map (·.off) = starts (12 + labSum qls + 1 + 4 + A.flatten.length) N ∧
      L.additional.map (·.off) = starts (12 + labSum qls + 1 + 4 + A.flatten.length + N.flatten.length) R ∧
      (∀ r ∈ L.answers ++ L.authority ++ L.additional, SelfCanon p r) := by
  intro p
  obtain ⟨hok, hw, hg⟩ := hgq
  have hg16 : ∀ i, i + 2 ≤ 12 → get16 p i = get16 hdr i := fun i hi => by
    show get16 (hdr ++ _ ++ _ ++ _ ++ _) i = _
    rw [List.append_assoc, List.append_assoc, List.append_assoc, get16_append_left (by omega)]
  have hvq : ValidName p 12 qls (12 + labSum qls + 1) := by
    have := validName_at (u := p) (A := hdr) (B := q4 ++ A.flatten ++ N.flatten ++ R.flatten) (by simp [p]) hok hw hg
    rw [hh] at this; exact this
  have hA1 : (hdr ++ (encLabels qls ++ [0])).length = 12 + labSum qls + 1 := by rw [List.length_append, hh, encLen_eq]; omega
  have hclass : get16 p (12 + labSum qls + 1 + 2) = 1 := by
    have e : p = (hdr ++ (encLabels qls ++ [0])) ++ (q4 ++ (A.flatten ++ N.flatten ++ R.flatten)) := by simp [p]
    rw [e, ← hA1, get16_append_right, get16_append_left (by omega)]
    exact hcl
  have hpre1 : (hdr ++ ((encLabels qls ++ [0]) ++ q4)).length = 12 + labSum qls + 1 + 4 := by
    simp only [List.length_append, hh, hq4, encLabels_length, List.length_cons, List.length_nil]; omega
  obtain ⟨la', rla, cla, ola, sla⟩ := pieces_placed hA (hdr ++ ((encLabels qls ++ [0]) ++ q4)) (N.flatten ++ R.flatten)
  have eu1 : hdr ++ ((encLabels qls ++ [0]) ++ q4) ++ A.flatten ++ (N.flatten ++ R.flatten) = p := by simp [p]
  rw [eu1] at rla cla sla
  rw [hpre1] at rla ola
  obtain ⟨ln', rln, cln, oln, sln⟩ := pieces_placed hN (hdr ++ ((encLabels qls ++ [0]) ++ q4) ++ A.flatten) R.flatten
  have eu2 : hdr ++ ((encLabels qls ++ [0]) ++ q4) ++ A.flatten ++ N.flatten ++ R.flatten = p := rfl
  rw [eu2] at rln cln sln
  have hpre2 : (hdr ++ ((encLabels qls ++ [0]) ++ q4) ++ A.flatten).length = 12 + labSum qls + 1 + 4 + A.flatten.length := by
    rw [List.length_append, hpre1]
  rw [hpre2] at rln oln
  obtain ⟨lr', rlr, clr, olr, slr⟩ := pieces_placed hR (hdr ++ ((encLabels qls ++ [0]) ++ q4) ++ A.flatten ++ N.flatten) []
  have eu3 : hdr ++ ((encLabels qls ++ [0]) ++ q4) ++ A.flatten ++ N.flatten ++ R.flatten ++ [] = p := by simp [p]
  rw [eu3] at rlr clr slr
  have hpre3 : (hdr ++ ((encLabels qls ++ [0]) ++ q4) ++ A.flatten ++ N.flatten).length =
      12 + labSum qls + 1 + 4 + A.flatten.length + N.flatten.length := by rw [List.length_append, hpre2]
  rw [hpre3] at rlr olr
  have hplen : p.length = 12 + labSum qls + 1 + 4 + A.flatten.length + N.flatten.length + R.flatten.length := by
    show (hdr ++ ((encLabels qls ++ [0]) ++ q4) ++ A.flatten ++ N.flatten ++ R.flatten).length = _
    rw [List.length_append, hpre3]
  rw [← hplen] at rlr
  have c6 : la'.length = get16 p 6 := by rw [← cla.length, hg16 6 (by omega), hca]
  have c8 : ln'.length = get16 p 8 := by rw [← cln.length, hg16 8 (by omega), hcn]
  have c10 : lr'.length = get16 p 10 := by rw [← clr.length, hg16 10 (by omega), hcr]
  constructor
  · refine ⟨by omega, by rw [hg16 4 (by omega)]; exact hqd, 12 + labSum qls + 1, ⟨qls, hvq⟩, by omega, hclass, ?_,
      12 + labSum qls + 1 + 4 + A.flatten.length, o2, 12 + labSum qls + 1 + 4 + A.flatten.length + N.flatten.length, o3, o4,
      ?_, ?_, ?_⟩
    · intro hq
      rw [hg16 2 (by omega)] at hq
      obtain ⟨ha, hn⟩ := hqr hq
      rw [hg16 6 (by omega), hg16 8 (by omega), hca, hcn, ha, hn]
      exact ⟨rfl, rfl⟩
    · rw [← c6]; exact rla.to_RRs
    · rw [← c8]; exact rln.to_RRs
    · rw [← c10]; exact rlr.to_RRs
  · refine ⟨⟨12 + labSum qls + 1, la', ln', lr', _, _, o2, o3, o4, ⟨⟨qls, hvq⟩, by omega⟩, rla, rln, rlr, c6, c8, c10⟩,
      rfl, hvq, rfl, rfl, rfl, rfl, rfl, cla, cln, clr, ola, oln, olr, ?_⟩
    intro r hr
    simp only [List.mem_append] at hr
    rcases hr with (hr | hr) | hr
    · exact sla r hr
    · exact sln r hr
    · exact slr r hr

end Dns
