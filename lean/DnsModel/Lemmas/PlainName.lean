/-
  `check_uncompressed_name` returns, and accepts exactly the pointer-free names of the policy.
-/
import DnsModel.Lemmas.NameSpec
namespace Dns

theorem cunLoop_root {p : Bytes} {off nl : Nat} (fuel : Nat) (hb : byteAt p off = some 0) (hw : nl + 1 ≤ 255) :
    cunLoop p (fuel+1) off nl = .ok (off + 1) := by
  have c0 : ¬ off ≥ p.length := Nat.not_le_of_lt (byteAt_lt_length hb)
  have c2 : ¬ 0 ≥ p.length - off := by omega
  have c3 : ¬ nl + 0 + 1 > DNS_MAX_HOSTNAME_LEN := Nat.not_lt_of_le hw
  rw [cunLoop]
  simp only [if_neg c0, idx_of_byteAt hb, isPtr_eq_false (by omega : 0 < 192), if_neg c2, if_neg c3]
  simp

theorem cunLoop_label {p : Bytes} {off nl len : Nat} (fuel : Nat) (hb : byteAt p off = some len) (h1 : 1 ≤ len)
    (h63 : len ≤ 63) (hfit : off + len + 1 ≤ p.length) (hw : nl + len + 1 ≤ 255) :
    cunLoop p (fuel+1) off nl = cunLoop p fuel (off + len + 1) (nl + len + 1) := by
  have c0 : ¬ off ≥ p.length := by omega
  have c1 : ¬ len > 0x3f := Nat.not_lt_of_le h63
  have c2 : ¬ len ≥ p.length - off := by omega
  have c3 : ¬ nl + len + 1 > DNS_MAX_HOSTNAME_LEN := Nat.not_lt_of_le hw
  have c4 : ¬ len = 0 := by omega
  rw [cunLoop]
  simp only [if_neg c0, idx_of_byteAt hb, isPtr_eq_false (by omega : len < 192), if_neg c1, if_neg c2, if_neg c3, if_neg c4,
    Bool.false_eq_true, if_false]

theorem cunLoop_succ (p : Bytes) (fuel off nl : Nat) :
    cunLoop p (fuel+1) off nl = .err .invalidName ∨ (byteAt p off = some 0 ∧ nl + 1 ≤ 255) ∨
      ∃ len, byteAt p off = some len ∧ 1 ≤ len ∧ len ≤ 63 ∧ off + len + 1 ≤ p.length ∧ nl + len + 1 ≤ 255 := by
  generalize hr : cunLoop p (fuel+1) off nl = r
  rw [cunLoop] at hr
  refine (Res.of_guard hr).elim .inl fun ⟨h0, hr⟩ => ?_
  obtain ⟨len, hidx, hlt⟩ := idx_ok_of_lt (Nat.lt_of_not_le h0)
  simp only [hidx] at hr
  refine (Res.of_guard hr).elim .inl fun ⟨_, hr⟩ => (Res.of_guard hr).elim .inl fun ⟨h2, hr⟩ =>
    (Res.of_guard hr).elim .inl fun ⟨h3, hr⟩ => (Res.of_guard hr).elim .inl fun ⟨h4, _⟩ => ?_
  have h4 : nl + len + 1 ≤ 255 := Nat.le_of_not_lt h4
  by_cases h5 : len = 0
  · subst h5; exact .inr (.inl ⟨idx_ok_iff.1 hidx, h4⟩)
  · exact .inr (.inr ⟨len, idx_ok_iff.1 hidx, by omega, by omega, by omega, h4⟩)

theorem cunLoop_no_panic (p : Bytes) (fuel off nl : Nat) : cunLoop p fuel off nl ≠ .panic := by
  induction fuel generalizing off nl with
  | zero => nofun
  | succ n ih =>
    rcases cunLoop_succ p n off nl with e | ⟨hb, hw⟩ | ⟨len, hb, h1, h63, hfit, hw⟩
    · rw [e]; nofun
    · rw [cunLoop_root n hb hw]; nofun
    · rw [cunLoop_label n hb h1 h63 hfit hw]; exact ih _ _

theorem cunLoop_terminates (p : Bytes) (fuel off nl : Nat) (hf : fuel > 255 - nl) :
    cunLoop p fuel off nl ≠ .diverge := by
  induction fuel generalizing off nl with
  | zero => omega
  | succ n ih =>
    rcases cunLoop_succ p n off nl with e | ⟨hb, hw⟩ | ⟨len, hb, h1, h63, hfit, hw⟩
    · rw [e]; nofun
    · rw [cunLoop_root n hb hw]; nofun
    · rw [cunLoop_label n hb h1 h63 hfit hw]; exact ih _ _ (by omega)

theorem checkUncompressedName_returns (p : Bytes) (off : Nat) : (checkUncompressedName p off).Returns := by
  unfold checkUncompressedName
  split
  · exact Res.returns_err _
  · exact ⟨cunLoop_no_panic _ _ _ _, cunLoop_terminates _ _ _ _ (by decide)⟩

theorem cunLoop_sound (p : Bytes) (fuel off nl e : Nat) (h : cunLoop p fuel off nl = .ok e) :
    ∃ ls stop, Labels p p.length off ls stop ∧ stop < p.length ∧ byteAt p stop = some 0 ∧ e = stop + 1 ∧
      nl + wireLen ls ≤ 255 := by
  induction fuel generalizing off nl with
  | zero => cases h
  | succ n ih =>
    rcases cunLoop_succ p n off nl with e1 | ⟨hb, hw⟩ | ⟨len, hb, h1, h63, hfit, hw⟩
    · rw [e1] at h; cases h
    · rw [cunLoop_root n hb hw] at h
      cases h
      exact ⟨[], off, .nil off, byteAt_lt_length hb, hb, rfl, hw⟩
    · rw [cunLoop_label n hb h1 h63 hfit hw] at h
      obtain ⟨ls, stop, hl, hs, hz, he, hw'⟩ := ih _ _ h
      refine ⟨_ :: ls, stop, .cons (by omega) hb h1 h63 hfit hl, hs, hz, he, ?_⟩
      rw [wireLen_cons, lab_length hfit]
      omega

theorem cunLoop_complete {p : Bytes} {off stop : Nat} {ls : List (List UInt8)} (hl : Labels p p.length off ls stop) :
    ∀ (fuel nl : Nat), byteAt p stop = some 0 → nl + wireLen ls ≤ 255 → fuel > 255 - nl →
      cunLoop p fuel off nl = .ok (stop + 1) := by
  induction hl with
  | nil off =>
    intro fuel nl hz hw hf
    cases fuel with
    | zero => omega
    | succ n => exact cunLoop_root n hz hw
  | @cons off len rest stop _ h2 h3 h4 h5 _ ih =>
    intro fuel nl hz hw hf
    rw [wireLen_cons, lab_length h5] at hw
    cases fuel with
    | zero => omega
    | succ n =>
      rw [cunLoop_label n h2 h3 h4 h5 (by rw [wireLen_eq] at hw; omega)]
      exact ih n _ hz (by omega) (by omega)

theorem checkUncompressedName_ok_iff (p : Bytes) (off e : Nat) :
    checkUncompressedName p off = .ok e ↔ PlainName p off e := by
  unfold checkUncompressedName PlainName
  constructor
  · intro h
    split at h
    · cases h
    · obtain ⟨ls, stop, hl, hs, hz, he, hw⟩ := cunLoop_sound p _ _ _ _ h
      exact ⟨ls, stop, hl, hs, hz, he, by omega⟩
  · rintro ⟨ls, stop, hl, hs, hz, rfl, hw⟩
    rw [if_neg (by have := hl.le; omega)]
    exact cunLoop_complete hl nameFuel 0 hz (by omega) (by decide)

theorem checkUncompressedName_ok_gt {p : Bytes} {off e : Nat} (h : checkUncompressedName p off = .ok e) :
    off < e := by
  obtain ⟨_, stop, hl, _, _, rfl, _⟩ := (checkUncompressedName_ok_iff p off e).1 h
  exact Nat.lt_succ_of_le hl.le

end Dns
