/-
  `copy_compressed_name_with_base_offset` on a pointer-free name: what it writes
  decodes to the input's labels up to case, and the dictionary stays sound (`compress_name`).  It never reads
  the output it appends to (`loop_param`), so what it writes depends only on the dictionary, the name and the
  output's length (`copyName_any`); with no committed entry it writes the name as it is (`copyName_first`).
-/
import DnsModel.Lemmas.Plain
import DnsModel.Lemmas.Dict
namespace Dns
open Res

/-- the two pointer bytes the compressor writes for output offset `o` -/
def ptrBytes (o : Nat) : Bytes := [UInt8.ofNat ((o >>> 8) % 256 ||| 0xc0), UInt8.ofNat (o &&& 0xff)]

theorem ptrBytes_eq (o : Nat) (h : o < 16384) : ptrBytes o = [UInt8.ofNat (0xc0 + o / 256), UInt8.ofNat (o % 256)] := by
  unfold ptrBytes
  have hq : o / 256 < 64 := by omega
  have e1 : (o >>> 8) % 256 = o / 256 := by rw [Nat.shiftRight_eq_div_pow]; simp; omega
  have e2 : o / 256 ||| 0xc0 = 0xc0 + o / 256 := (by decide : ∀ q : Fin 64, q.val ||| 0xc0 = 0xc0 + q.val) ⟨o / 256, hq⟩
  have e3 : o &&& 0xff = o % 256 := Nat.and_two_pow_sub_one_eq_mod o 8
  rw [e1, e2, e3]

/-- how the walk over a pointer-free name ends -/
def NameEnd (out0 : Bytes) (rest : List (List UInt8)) (tail : Bytes) (d : Nat) : Prop :=
  (rest = [] ∧ tail = [0] ∧ d = 0) ∨
  (∃ o cls' ePos Po Eo dd, tail = ptrBytes o ∧ d = dd + 1 ∧ dd < 16 ∧ lsCi cls' rest ∧
     NameAt out0 Eo Po o dd cls' ePos ∧ Po ≤ o ∧ Eo ≤ out0.length ∧ o < 16384 ∧ o < out0.length ∧
     byteAt out0 o ≠ some 0 ∧ 2 < labSum rest + 1)

theorem loop_step_nil (pre : List (List UInt8)) (base n : Nat) (dict : SuffixDict) (out : Bytes) :
    copyCompressedLoop (encLabels (pre ++ []) ++ [0]) (encLabels (pre ++ []) ++ [0]).length base (n + 1) dict out (labSum pre) =
      dict.insert (encLabels [] ++ [0]) (base + labSum pre) >>= fun r =>
        match r.2 with
        | some o => assert (labSum pre < 16384) >>= fun _ => .ok (r.1, out ++ ptrBytes o)
        | none => .ok (r.1.commit 0, out ++ [0]) := by
  have hnp : isPtr 0 = false := by decide
  rw [copyCompressedLoop]
  simp only [nm_idx_nil, bind_ok, hnp, Bool.false_eq_true, if_false, nm_slice_rest, Nat.add_zero,
    nm_slice pre [] (n := 1) (Nat.le_refl _), beq_self_eq_true, if_true, pure_eq]
  rfl

theorem loop_step_cons (pre : List (List UInt8)) {x : List UInt8} (suf : List (List UInt8)) (hx : okLabel x)
    (base n : Nat) (dict : SuffixDict) (out : Bytes) :
    copyCompressedLoop (encLabels (pre ++ x :: suf) ++ [0]) (encLabels (pre ++ x :: suf) ++ [0]).length base (n + 1) dict out
        (labSum pre) =
      dict.insert (encLabels (x :: suf) ++ [0]) (base + labSum pre) >>= fun r =>
        match r.2 with
        | some o => assert (labSum pre < 16384) >>= fun _ => .ok (r.1, out ++ ptrBytes o)
        | none => copyCompressedLoop (encLabels (pre ++ x :: suf) ++ [0]) (encLabels (pre ++ x :: suf) ++ [0]).length base n r.1
            (out ++ (UInt8.ofNat x.length :: x)) (labSum (pre ++ [x])) := by
  have hnp : isPtr x.length = false := isPtr_false_of_le hx.2
  have hnz : (x.length == 0) = false := beq_eq_false_iff_ne.2 (Nat.ne_of_gt hx.1)
  have e2 : labSum pre + 1 + x.length = labSum (pre ++ [x]) := by
    rw [labSum_append, labSum_cons, Nat.add_assoc, Nat.add_comm 1]
    rfl
  have e : encLabels (x :: suf) ++ [0] = (UInt8.ofNat x.length :: x) ++ (encLabels suf ++ [0]) := by
    simp only [encLabels, List.cons_append, List.append_assoc]
  have hlab := nm_slice pre (x :: suf) (n := (UInt8.ofNat x.length :: x).length)
    (by rw [e, List.length_append]; exact Nat.le_add_right _ _)
  rw [e, List.take_left' rfl, List.length_cons, Nat.add_comm x.length, ← Nat.add_assoc] at hlab
  rw [copyCompressedLoop]
  simp only [nm_idx_cons pre x suf hx, bind_ok, hnp, Bool.false_eq_true, if_false, nm_slice_rest, hlab, hnz]
  rw [e2]
  rfl

theorem loop_trace (out0 : Bytes) (suf : List (List UInt8)) :
    ∀ (pre : List (List UInt8)) (dict : SuffixDict) (out : Bytes) (fuel : Nat),
      (∀ l ∈ pre ++ suf, okLabel l) → labSum (pre ++ suf) < 16384 → fuel > suf.length →
      DictState dict out0 (pre ++ suf) pre.length none →
      ∃ (mid rest : List (List UInt8)) (tail : Bytes) (d : Nat) (dict' : SuffixDict), suf = mid ++ rest ∧
        copyCompressedLoop (encLabels (pre ++ suf) ++ [0]) (encLabels (pre ++ suf) ++ [0]).length out0.length
          fuel dict out (labSum pre) = .ok (dict', out ++ encLabels mid ++ tail) ∧
        DictState dict' out0 (pre ++ suf) (pre.length + mid.length) (some d) ∧ d ≤ 16 ∧
        NameEnd out0 rest tail d := by
  -- a hit at the boundary after `pre`: the name ends here with a pointer, whatever `suf` is
  have hit : ∀ {suf pre dict out} {o dd : Nat} {cls' : List (List UInt8)}, labSum (pre ++ suf) < 16384 →
      DictState dict out0 (pre ++ suf) pre.length none → lsCi cls' suf → PtrTarget out0 o dd cls' → dd < 16 → 2 < labSum suf + 1 →
      ∃ (mid rest : List (List UInt8)) (tail : Bytes) (d : Nat) (dict' : SuffixDict), suf = mid ++ rest ∧
        (assert (labSum pre < 16384) >>= fun _ => Res.ok (dict.commit (dd + 1), out ++ ptrBytes o)) =
          .ok (dict', out ++ encLabels mid ++ tail) ∧
        DictState dict' out0 (pre ++ suf) (pre.length + mid.length) (some d) ∧ d ≤ 16 ∧ NameEnd out0 rest tail d := by
    intro suf pre dict out o dd cls' hw hd h1 ⟨ePos, Po, Eo, h2, h3, h4, h5, h6, h7⟩ h8 h9
    have hlt : decide (labSum pre < 16384) = true := by
      rw [labSum_append] at hw
      exact decide_eq_true (Nat.lt_of_le_of_lt (Nat.le_add_right _ _) hw)
    refine ⟨[], suf, ptrBytes o, dd + 1, dict.commit (dd + 1), rfl, ?_, hd.commit (dd + 1) (by unfold DEPTH_PENDING; omega),
      h8, Or.inr ⟨o, cls', ePos, Po, Eo, dd, rfl, rfl, h8, h1, h2, h3, h4, h5, h6, h7, h9⟩⟩
    rw [assert, hlt, if_pos rfl, bind_ok, encLabels, List.append_nil]
  induction suf with
  | nil =>
    intro pre dict out fuel hok hw hf hd
    cases fuel with
    | zero => omega
    | succ n =>
      obtain ⟨dict1, hit', hi, hcase⟩ := insert_cases hd hok
      rw [List.drop_left] at hi hcase
      rw [List.take_left] at hi
      rw [loop_step_nil, hi, bind_ok]
      rcases hcase with ⟨rfl, hd1, _⟩ | ⟨o, cls', dd, rfl, h1, h2, h8, rfl, h9, _⟩
      · exact ⟨[], [], [0], 0, dict1.commit 0, rfl, by simp [encLabels], (hd1.commit 0 (by decide)).weaken fun j _ hj => by simpa using hj,
          Nat.zero_le _, Or.inl ⟨rfl, rfl, rfl⟩⟩
      · exact hit hw hd h1 h2 h8 h9
  | cons x suf ih =>
    intro pre dict out fuel hok hw hf hd
    cases fuel with
    | zero => omega
    | succ n =>
      have hx : okLabel x := hok x (by simp)
      obtain ⟨dict1, hit', hi, hcase⟩ := insert_cases hd hok
      rw [List.drop_left] at hi hcase
      rw [List.take_left] at hi
      rw [loop_step_cons pre suf hx, hi, bind_ok]
      rcases hcase with ⟨rfl, hd1, _⟩ | ⟨o, cls', dd, rfl, h1, h2, h8, rfl, h9, _⟩
      · have e1 : pre ++ x :: suf = (pre ++ [x]) ++ suf := by simp
        rw [e1] at hok hw hd1 ⊢
        obtain ⟨mid, rest, tail, d, dict', hs, hrun, hds, hd16, hend⟩ := ih (pre ++ [x]) dict1 (out ++ (UInt8.ofNat x.length :: x)) n
          hok hw (by simp at hf; omega) (by simpa using hd1)
        refine ⟨x :: mid, rest, tail, d, dict', by rw [hs]; rfl, ?_, ?_, hd16, hend⟩
        · rw [hrun]
          simp [encLabels]
        · have : (pre ++ [x]).length + mid.length = pre.length + (x :: mid).length := by simp; omega
          rwa [this] at hds
      · exact hit hw hd h1 h2 h8 h9

theorem enc_take_drop (ls : List (List UInt8)) (j : Nat) :
    encLabels (ls.take j) ++ encLabels (ls.drop j) = encLabels ls := by
  rw [← encLabels_append, List.take_append_drop]

theorem enc_first_byte {x : List UInt8} {l : List (List UInt8)} (A B : Bytes) (hx : okLabel x) :
    byteAt (A ++ encLabels (x :: l) ++ B) A.length ≠ some 0 := by
  rw [List.append_assoc, byteAt_append_right0]
  simp only [encLabels, List.cons_append, byteAt_cons_zero]
  unfold okLabel at hx
  simp; omega

/-- an entry stored at the boundary after `pre` while a name was being written is sound once the name is complete -/
theorem EntryOK.of_pending {out0 tail : Bytes} {pre ms ls' els : List (List UInt8)} {m : List UInt8} {d ePos : Nat} {e : Suffix}
    (hN : NameAt (out0 ++ encLabels pre ++ encLabels (m :: ms) ++ tail) (out0 ++ encLabels pre ++ encLabels (m :: ms) ++ tail).length
      (out0 ++ encLabels pre).length (out0 ++ encLabels pre).length d ls' ePos)
    (hm : okLabel m) (hsuf : e.suffix.take e.len = encLabels els ++ [0]) (hokE : ∀ l ∈ els, okLabel l) (hci : lsCi ls' els)
    (hoff : e.offset = (out0 ++ encLabels pre).length) (hdep : e.depth = d) (hlt : e.offset < 16384) :
    EntryOK (out0 ++ encLabels pre ++ encLabels (m :: ms) ++ tail) e := by
  refine ⟨els, ls', ePos, e.offset, _, hsuf, hokE, hci, by rw [hoff, hdep]; exact hN, Nat.le_refl _, Nat.le_refl _, hlt, ?_, ?_⟩
  · rw [hoff, List.length_append (bs := tail), List.length_append (bs := encLabels (m :: ms)), encLabels_length, labSum_cons]
    omega
  · rw [hoff]
    exact enc_first_byte _ _ hm

theorem copyName_of_loop {ls : List (List UInt8)} (hok : ∀ l ∈ ls, okLabel l) (hw : wireLen ls ≤ 255)
    (hg : ∀ l ∈ ls, goodChars l = true) {dict dict' : SuffixDict} {out0 em : Bytes}
    (hrun : copyCompressedLoop (encLabels ls ++ [0]) (encLabels ls ++ [0]).length out0.length nameFuel dict out0 0 =
      .ok (dict', out0 ++ em)) :
    copyCompressedNameWithBaseOffset dict out0 (encLabels ls ++ [0]) 0 out0.length =
      .ok (dict', out0 ++ em, em.length, (encLabels ls ++ [0]).length) := by
  unfold copyCompressedNameWithBaseOffset
  rw [(plainAt_self hok hw hg).rawLenAfter, ← encLen_eq, bind_ok, Nat.zero_add]
  dsimp only
  rw [hrun, bind_ok, pure_eq, List.length_append, Nat.add_sub_cancel_left]

theorem PlainAt.copyName {p : Bytes} {off : Nat} {ls : List (List UInt8)} (h : PlainAt p off ls) {dict dict' : SuffixDict}
    {out out' : Bytes} {n f : Nat}
    (hr : copyCompressedNameWithBaseOffset dict out (encLabels ls ++ [0]) 0 out.length = .ok (dict', out', n, f)) :
    copyCompressedName dict out p off = .ok (dict', out', n, off + (labSum ls + 1)) := by
  unfold copyCompressedName
  rw [h.rawLenAfter, bind_ok, h.slice, bind_ok, hr]
  rfl

/-- The base offset has to be `out0.length`: the dictionary records output offsets.  `0 < emitted.length` is
what makes the root owner of an OPT record one byte again (`compress_record`). -/
theorem compress_name (out0 : Bytes) (ls : List (List UInt8)) (hok : ∀ l ∈ ls, okLabel l) (hw : wireLen ls ≤ 255)
    (hg : ∀ l ∈ ls, goodChars l = true) (dict : SuffixDict) (hinv : DictInv dict out0) :
    ∃ (dict' : SuffixDict) (emitted : Bytes) (ls' : List (List UInt8)),
      copyCompressedNameWithBaseOffset dict out0 (encLabels ls ++ [0]) 0 out0.length =
        .ok (dict', out0 ++ emitted, emitted.length, (encLabels ls ++ [0]).length) ∧
      emitted.length ≤ (encLabels ls ++ [0]).length ∧ 0 < emitted.length ∧ lsCi ls' ls ∧
      (∀ t : Bytes, ValidName (out0 ++ emitted ++ t) out0.length ls' (out0.length + emitted.length)) ∧
      DictInv dict' (out0 ++ emitted) := by
  have hlsum : labSum ls < 16384 := by rw [wireLen_eq] at hw; omega
  have hlen := length_lt_wireLen ls
  obtain ⟨mid, rest, tail, d, dict', hs, hrun, hds, hd16, hend⟩ := loop_trace out0 ls [] dict out0 nameFuel
    (by simpa using hok) (by simpa using hlsum) (by have := nameFuel_eq; omega) (by simpa using hinv.start ls)
  simp only [List.nil_append, List.length_nil, Nat.zero_add, labSum, List.map_nil, List.sum_nil] at hrun hds
  have hokm : ∀ l ∈ mid, okLabel l := fun l hl => hok l (by rw [hs]; simp [hl])
  have hrunres : copyCompressedNameWithBaseOffset dict out0 (encLabels ls ++ [0]) 0 out0.length =
      .ok (dict', out0 ++ (encLabels mid ++ tail), (encLabels mid ++ tail).length, (encLabels ls ++ [0]).length) :=
    copyName_of_loop hok hw hg (by rw [hrun, List.append_assoc])
  obtain ⟨ds1, ds2, ds3, ds4, ds5⟩ := hds
  rcases hend with ⟨hrest, htail, hd0⟩ | ⟨o, cls', ePos, Po, Eo, dd, htail, hdd, hdlt, hci, hent, hPo, hEo, ho, holt, hnz, hrl⟩
  · subst hrest; subst htail; subst hd0
    simp only [List.append_nil] at hs
    subst hs
    refine ⟨dict', encLabels ls ++ [0], ls, hrunres, Nat.le_refl _, by simp, lsCi.refl _, ?_, ds1, ds2, ds3, ds4, ?_⟩
    · intro t
      have := validName_at (u := out0 ++ (encLabels ls ++ [0]) ++ t) (A := out0) (B := t) rfl hok hw hg
      rw [encLen_eq]
      simpa [Nat.add_assoc] using this
    · intro i e hi he
      rcases ds5 i e hi he with ⟨hn, hokE⟩ | ⟨j, hj, hj2, hoff, hsuf, hlt, hdep⟩
      · exact ⟨hn, by simpa [List.append_assoc] using hokE.append (encLabels ls ++ [0])⟩
      · simp only [Option.getD_some] at hdep
        have hd : ls.drop j = ls[j] :: ls.drop (j + 1) := List.drop_eq_getElem_cons hj2
        have hokd : ∀ l ∈ ls.drop j, okLabel l := fun l hl => hok l (List.mem_of_mem_drop hl)
        have el : (out0 ++ encLabels (ls.take j)).length = out0.length + labSum (ls.take j) := by
          rw [List.length_append, encLabels_length]
        have eo : out0 ++ encLabels (ls.take j) ++ encLabels (ls.drop j) ++ [0] = out0 ++ (encLabels ls ++ [0]) := by
          rw [List.append_assoc out0, enc_take_drop, List.append_assoc]
        have hN := NameAt.emit_root (out0 ++ encLabels (ls.take j)) (ls.drop j) hokd
        rw [hd] at hN eo
        exact ⟨by rw [hdep]; decide, eo ▸ EntryOK.of_pending hN (hok _ (List.getElem_mem hj2)) hsuf hokd (hd ▸ lsCi.refl _)
          (hoff.trans el.symm) hdep hlt⟩
  · subst htail; subst hdd
    have hptr : ptrBytes o = [UInt8.ofNat (0xc0 + o / 256), UInt8.ofNat (o % 256)] := ptrBytes_eq o ho
    have hci' : lsCi (mid ++ cls') ls := by rw [hs]; exact (lsCi.refl mid).append hci
    have hsum : labSum ls = labSum mid + labSum rest := by rw [hs, labSum_append]
    refine ⟨dict', encLabels mid ++ ptrBytes o, mid ++ cls', hrunres, ?_, by simp [ptrBytes], hci', ?_, ds1, ds2, ds3, ds4, ?_⟩
    · simp only [List.length_append, encLabels_length, ptrBytes, List.length_cons, List.length_nil]
      omega
    · intro t
      have hem := NameAt.emit_ptr out0 mid cls' o Po Eo dd ePos hent hPo hEo ho hnz holt hokm
      simp only at hem
      rw [← hptr] at hem
      have hap := hem.append (q := t) (by simp)
      have hmono := hap.mono (bar' := (out0 ++ encLabels mid ++ ptrBytes o ++ t).length) (low' := out0.length) (refs' := 16)
        (by simp) (Nat.le_refl _) (by omega)
      have eo : out0 ++ (encLabels mid ++ ptrBytes o) ++ t = out0 ++ encLabels mid ++ ptrBytes o ++ t := by simp
      rw [eo]
      have el : out0.length + (encLabels mid ++ ptrBytes o).length = out0.length + labSum mid + 2 := by
        simp [encLabels_length, ptrBytes]; omega
      rw [el]
      refine ⟨by simp [ptrBytes]; omega, hmono, ?_, hci'.symm.goodChars hg⟩
      rw [hci'.wireLen]; exact hw
    · intro i e hi he
      rcases ds5 i e hi he with ⟨hn, hokE⟩ | ⟨j, hj, hj2, hoff, hsuf, hlt, hdep⟩
      · exact ⟨hn, by simpa [List.append_assoc] using hokE.append (encLabels mid ++ ptrBytes o)⟩
      · simp only [Option.getD_some] at hdep
        have hjm : j < mid.length := hj
        have hd : mid.drop j = mid[j] :: mid.drop (j + 1) := List.drop_eq_getElem_cons hjm
        have hdrop : ls.drop j = mid.drop j ++ rest := by rw [hs, List.drop_append_of_le_length (Nat.le_of_lt hjm)]
        have el : (out0 ++ encLabels (mid.take j)).length = out0.length + labSum (ls.take j) := by
          rw [List.length_append, encLabels_length, hs, List.take_append_of_le_length (Nat.le_of_lt hjm)]
        have eo : out0 ++ encLabels (mid.take j) ++ encLabels (mid.drop j) ++ ptrBytes o = out0 ++ (encLabels mid ++ ptrBytes o) := by
          rw [List.append_assoc out0, enc_take_drop, List.append_assoc]
        have hle := (List.length_append (as := out0) (bs := encLabels (mid.take j))).symm
        have hN := NameAt.emit_ptr (out0 ++ encLabels (mid.take j)) (mid.drop j) cls' o Po Eo dd ePos
          (hent.append (Nat.le_trans hPo (Nat.le_of_lt holt))) hPo (hle ▸ Nat.le_trans hEo (Nat.le_add_right _ _)) ho
          (byteAt_ne_append_left holt hnz) (hle ▸ Nat.lt_of_lt_of_le holt (Nat.le_add_right _ _))
          fun l hl => hokm l (List.mem_of_mem_drop hl)
        simp only at hN
        rw [← hptr, hd] at hN
        rw [hd] at eo
        exact ⟨by rw [hdep]; unfold DEPTH_PENDING; omega, eo ▸ EntryOK.of_pending hN (hokm _ (List.getElem_mem hjm)) hsuf
          (fun l hl => hok l (List.mem_of_mem_drop hl)) (by rw [← hd, hdrop]; exact (lsCi.refl _).append hci)
          (hoff.trans el.symm) hdep hlt⟩

/-- prepend `out` to the bytes a run appended to the empty output -/
def prepend (out : Bytes) (r : SuffixDict × Bytes) : Res (SuffixDict × Bytes) := .ok (r.1, out ++ r.2)

/- Both sides run the same steps; `prepend out` is pushed through the binds to the three places where
an output is returned. -/
theorem loop_param (p : Bytes) (fin base : Nat) :
    ∀ (fuel : Nat) (dict : SuffixDict) (out : Bytes) (offset : Nat),
      copyCompressedLoop p fin base fuel dict out offset =
        (copyCompressedLoop p fin base fuel dict [] offset >>= prepend out) := by
  intro fuel
  induction fuel with
  | zero => intro dict out offset; rfl
  | succ n ih =>
    intro dict out offset
    unfold copyCompressedLoop
    simp only [Res.bind_assoc]
    refine Res.bind_congr fun b _ => ?_
    split
    · rfl
    simp only [Res.bind_assoc]
    refine Res.bind_congr fun suffix _ => Res.bind_congr fun r _ => ?_
    obtain ⟨d1, hit⟩ := r
    cases hit with
    | some o =>
      simp only [Res.bind_assoc]
      exact Res.bind_congr fun _ _ => rfl
    | none =>
      simp only [Res.bind_assoc]
      refine Res.bind_congr fun lab _ => ?_
      split
      · rfl
      · rw [ih d1 (out ++ lab), ih d1 ([] ++ lab), Res.bind_assoc]
        refine Res.bind_congr fun r _ => ?_
        show Res.ok _ = Res.ok _
        rw [List.nil_append, List.append_assoc]

theorem copyName_param {dict dict' : SuffixDict} {out em nm : Bytes} {n f : Nat}
    (h : copyCompressedNameWithBaseOffset dict out nm 0 out.length = .ok (dict', out ++ em, n, f))
    (out2 : Bytes) (hl : out2.length = out.length) :
    copyCompressedNameWithBaseOffset dict out2 nm 0 out2.length = .ok (dict', out2 ++ em, n, f) := by
  unfold copyCompressedNameWithBaseOffset at h ⊢
  obtain ⟨l, hr, h⟩ := bind_eq_ok.1 h
  dsimp only at h
  rw [loop_param, Res.bind_assoc] at h
  obtain ⟨r, hloop, h⟩ := bind_eq_ok.1 h
  rw [hl, hr, bind_ok]
  dsimp only
  rw [loop_param, hloop]
  simp only [prepend, bind_ok, pure_eq, ok.injEq, Prod.mk.injEq] at h ⊢
  obtain ⟨h1, h2, h3, h4⟩ := h
  obtain rfl : r.2 = em := List.append_cancel_left h2
  rw [List.length_append, Nat.add_sub_cancel_left] at h3
  exact ⟨h1, rfl, by rw [List.length_append, hl, Nat.add_sub_cancel_left, h3], h4⟩

/-- the bytes appended and the new dictionary are the same after *any* output of length `n`: the callers write
the name before the length field in front of it is patched -/
theorem compressName_any (ls : List (List UInt8)) (hok : ∀ l ∈ ls, okLabel l) (hw : wireLen ls ≤ 255)
    (hg : ∀ l ∈ ls, goodChars l = true) (dict : SuffixDict) (n : Nat) (X0 : Bytes) (hX0 : X0.length = n)
    (hinv0 : DictInv dict X0) :
    ∃ (dict' : SuffixDict) (em : Bytes),
      (∀ out2 : Bytes, out2.length = n →
        copyCompressedNameWithBaseOffset dict out2 (encLabels ls ++ [0]) 0 out2.length =
          .ok (dict', out2 ++ em, em.length, (encLabels ls ++ [0]).length)) ∧
      em.length ≤ labSum ls + 1 ∧ 0 < em.length ∧
      (∀ X : Bytes, X.length = n → DictInv dict X →
        DictInv dict' (X ++ em) ∧ ∃ ls', lsCi ls' ls ∧ ∀ t : Bytes, ValidName (X ++ em ++ t) n ls' (n + em.length)) := by
  obtain ⟨dict', em, _, hrun0, hle, hpos, _⟩ := compress_name X0 ls hok hw hg dict hinv0
  have hgen : ∀ out2 : Bytes, out2.length = n →
      copyCompressedNameWithBaseOffset dict out2 (encLabels ls ++ [0]) 0 out2.length =
        .ok (dict', out2 ++ em, em.length, (encLabels ls ++ [0]).length) :=
    fun out2 hl => copyName_param hrun0 out2 (hl.trans hX0.symm)
  refine ⟨dict', em, hgen, encLen_eq ls ▸ hle, hpos, fun X hX hinv => ?_⟩
  obtain ⟨dX, emX, lsX, hrunX, _, _, hciX, hvalX, hdX⟩ := compress_name X ls hok hw hg dict hinv
  rw [hgen X hX, ok.injEq, Prod.mk.injEq, Prod.mk.injEq] at hrunX
  obtain ⟨rfl, e2, _⟩ := hrunX
  obtain rfl := List.append_cancel_left e2
  exact ⟨hdX, lsX, hciX, hX ▸ hvalX⟩

theorem copyName_any {p : Bytes} {off : Nat} {ls : List (List UInt8)} (h : PlainAt p off ls) (dict : SuffixDict)
    (n : Nat) (X0 : Bytes) (hX0 : X0.length = n) (hinv0 : DictInv dict X0) :
    ∃ (dict' : SuffixDict) (em : Bytes),
      (∀ out2 : Bytes, out2.length = n →
        copyCompressedName dict out2 p off = .ok (dict', out2 ++ em, em.length, off + (labSum ls + 1))) ∧
      em.length ≤ labSum ls + 1 ∧ 0 < em.length ∧
      (∀ X : Bytes, X.length = n → DictInv dict X →
        DictInv dict' (X ++ em) ∧ ∃ ls', lsCi ls' ls ∧ ∀ t : Bytes, ValidName (X ++ em ++ t) n ls' (n + em.length)) := by
  obtain ⟨dict', em, hgen, hle, hpos, hall⟩ := compressName_any ls h.2.1 h.2.2.1 h.2.2.2 dict n X0 hX0 hinv0
  exact ⟨dict', em, fun out2 hl => h.copyName (hgen out2 hl), hle, hpos, hall⟩

theorem loop_literal (out0 : Bytes) (suf : List (List UInt8)) :
    ∀ (pre : List (List UInt8)) (dict : SuffixDict) (out : Bytes) (fuel : Nat),
      (∀ l ∈ pre ++ suf, okLabel l) → fuel > suf.length →
      DictState dict out0 (pre ++ suf) pre.length none → NoCommitted dict →
      ∃ dict', copyCompressedLoop (encLabels (pre ++ suf) ++ [0]) (encLabels (pre ++ suf) ++ [0]).length out0.length
          fuel dict out (labSum pre) = .ok (dict', out ++ encLabels suf ++ [0]) := by
  induction suf with
  | nil =>
    intro pre dict out fuel hok hf hd hnc
    cases fuel with
    | zero => omega
    | succ n =>
      obtain ⟨dict1, hit, hi, hcase⟩ := insert_cases hd hok
      rw [List.drop_left, List.take_left] at hi
      rw [loop_step_nil, hi, bind_ok]
      rcases hcase with ⟨rfl, _⟩ | ⟨_, _, _, _, _, _, _, _, _, h⟩
      · exact ⟨dict1.commit 0, by simp [encLabels]⟩
      · exact absurd hnc h
  | cons x suf ih =>
    intro pre dict out fuel hok hf hd hnc
    cases fuel with
    | zero => omega
    | succ n =>
      obtain ⟨dict1, hit, hi, hcase⟩ := insert_cases hd hok
      rw [List.drop_left, List.take_left] at hi
      rw [loop_step_cons pre suf (hok x (by simp)), hi, bind_ok]
      rcases hcase with ⟨rfl, hd1, hnc1⟩ | ⟨_, _, _, _, _, _, _, _, _, h⟩
      · have e1 : pre ++ x :: suf = (pre ++ [x]) ++ suf := by simp
        rw [e1] at hok hd1 ⊢
        obtain ⟨dict', hrun⟩ := ih (pre ++ [x]) dict1 (out ++ (UInt8.ofNat x.length :: x)) n hok (by simp at hf; omega)
          (by simpa using hd1) (hnc1 hnc)
        exact ⟨dict', by rw [hrun]; simp [encLabels]⟩
      · exact absurd hnc h

theorem copyName_first {p : Bytes} {off : Nat} {ls : List (List UInt8)} (h : PlainAt p off ls) (out0 : Bytes) :
    ∃ dict', copyCompressedName {} out0 p off =
      .ok (dict', out0 ++ (encLabels ls ++ [0]), (encLabels ls ++ [0]).length, off + (labSum ls + 1)) := by
  have hw := h.2.2.1
  have hlen := length_lt_wireLen ls
  have hnc : NoCommitted {} := by intro i e hi; simp at hi
  obtain ⟨dict', hrun⟩ := loop_literal out0 ls [] {} out0 nameFuel (by simpa using h.2.1)
    (by have := nameFuel_eq; omega) (by simpa using DictState.empty out0 ls) hnc
  simp only [List.nil_append, labSum, List.map_nil, List.sum_nil] at hrun
  exact ⟨dict', h.copyName (copyName_of_loop h.2.1 hw h.2.2.2 (by rw [hrun, List.append_assoc]))⟩

end Dns
