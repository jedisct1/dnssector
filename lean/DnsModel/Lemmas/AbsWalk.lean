/-
  "walk a list and delete some of what is yielded; a deletion restarts the walk":
  the abstract machine the cursor protocol refines, and its properties (pure list reasoning).
  The properties are stated for finished runs (`AbsRun`, the machine without its fuel).
-/
namespace Dns

/-- `choose k` decides whether the `k`-th yielded element is deleted; after a deletion the walk restarts from the
front of what is left.  Result: what is left and the log of yields (element, deleted?) -/
def absWalk {α} (choose : Nat → Bool) : Nat → Nat → List α → Nat → Option (List α × List (α × Bool))
  | 0, _, _, _ => none
  | f + 1, k, xs, j =>
    if h : j < xs.length then
      if choose k then (absWalk choose f (k + 1) (xs.eraseIdx j) 0).map (fun r => (r.1, (xs[j], true) :: r.2))
      else (absWalk choose f (k + 1) xs (j + 1)).map (fun r => (r.1, (xs[j], false) :: r.2))
    else some (xs, [])

theorem absWalk_stop {α} (choose : Nat → Bool) (f k : Nat) {xs : List α} {j : Nat} (hj : ¬ j < xs.length) :
    absWalk choose (f + 1) k xs j = some (xs, []) := by
  rw [absWalk, dif_neg hj]

theorem absWalk_delete {α} {choose : Nat → Bool} (f : Nat) {k : Nat} {xs : List α} {j : Nat} (hj : j < xs.length)
    (hc : choose k = true) :
    absWalk choose (f + 1) k xs j = (absWalk choose f (k + 1) (xs.eraseIdx j) 0).map (fun r => (r.1, (xs[j], true) :: r.2)) := by
  rw [absWalk, dif_pos hj, if_pos hc]

theorem absWalk_keep {α} {choose : Nat → Bool} (f : Nat) {k : Nat} {xs : List α} {j : Nat} (hj : j < xs.length)
    (hc : choose k = false) :
    absWalk choose (f + 1) k xs j = (absWalk choose f (k + 1) xs (j + 1)).map (fun r => (r.1, (xs[j], false) :: r.2)) := by
  rw [absWalk, dif_pos hj, if_neg (by rw [hc]; exact Bool.false_ne_true)]

/-- enough fuel is `(n+1)² + n + 1` for a list of `n` elements (a deletion gives up the position reached, at most
`n`, and shortens the list) -/
theorem absWalk_terminates {α} (choose : Nat → Bool) :
    ∀ (fuel k : Nat) (xs : List α) (j : Nat), (xs.length + 1) * (xs.length + 1) + (xs.length - j) < fuel →
      (absWalk choose fuel k xs j).isSome = true := by
  intro fuel
  induction fuel with
  | zero => intro k xs j h; omega
  | succ f ih =>
    intro k xs j h
    by_cases hj : j < xs.length
    · cases hc : choose k
      · rw [absWalk_keep f hj hc, Option.isSome_map]
        exact ih _ _ _ (by omega)
      · rw [absWalk_delete f hj hc, Option.isSome_map]
        apply ih
        rw [List.length_eraseIdx_of_lt hj]
        have hsq : (xs.length - 1 + 1) * (xs.length - 1 + 1) + (xs.length - 1 + 1) ≤ (xs.length + 1) * (xs.length + 1) := by
          rw [Nat.sub_add_cancel (by omega), Nat.add_mul, Nat.mul_add]; omega
        omega
    · rw [absWalk_stop choose f k hj]; rfl

/-- from yield number `k`, list `xs`, position `j` to the result `r` -/
inductive AbsRun {α} (choose : Nat → Bool) : Nat → List α → Nat → List α × List (α × Bool) → Prop
  | stop {k xs j} : ¬ j < xs.length → AbsRun choose k xs j (xs, [])
  | delete {k xs j r} (hj : j < xs.length) : choose k = true → AbsRun choose (k + 1) (xs.eraseIdx j) 0 r →
      AbsRun choose k xs j (r.1, (xs[j], true) :: r.2)
  | keep {k xs j r} (hj : j < xs.length) : choose k = false → AbsRun choose (k + 1) xs (j + 1) r →
      AbsRun choose k xs j (r.1, (xs[j], false) :: r.2)

theorem absWalk_run {α} {choose : Nat → Bool} :
    ∀ {fuel k : Nat} {xs : List α} {j : Nat} {r}, absWalk choose fuel k xs j = some r → AbsRun choose k xs j r := by
  intro fuel
  induction fuel with
  | zero => intro k xs j r h; rw [absWalk] at h; cases h
  | succ f ih =>
    intro k xs j r h
    by_cases hj : j < xs.length
    · cases hc : choose k
      · rw [absWalk_keep f hj hc] at h
        obtain ⟨r', hr', rfl⟩ := Option.map_eq_some_iff.1 h
        exact .keep hj hc (ih hr')
      · rw [absWalk_delete f hj hc] at h
        obtain ⟨r', hr', rfl⟩ := Option.map_eq_some_iff.1 h
        exact .delete hj hc (ih hr')
    · rw [absWalk_stop choose f k hj] at h
      cases h
      exact .stop hj

theorem perm_cons_eraseIdx {α} {xs : List α} {j : Nat} (hj : j < xs.length) : (xs[j] :: xs.eraseIdx j).Perm xs := by
  have e : xs = xs.take j ++ xs[j] :: xs.drop (j + 1) := by rw [List.getElem_cons_drop, List.take_append_drop]
  rw [List.eraseIdx_eq_take_drop_succ]
  exact List.perm_middle.symm.trans (.of_eq e.symm)

theorem AbsRun.sublist {α} {choose : Nat → Bool} {k : Nat} {xs : List α} {j : Nat} {r} (h : AbsRun choose k xs j r) :
    r.1.Sublist xs ∧ ∀ e ∈ r.2, e.1 ∈ xs := by
  induction h with
  | stop => exact ⟨.refl _, fun _ he => nomatch he⟩
  | delete hj _ _ ih =>
    refine ⟨ih.1.trans (List.eraseIdx_sublist _ _), fun e he => ?_⟩
    rcases List.mem_cons.1 he with rfl | he
    · exact List.getElem_mem hj
    · exact List.mem_of_mem_eraseIdx (ih.2 e he)
  | keep hj _ _ ih =>
    refine ⟨ih.1, fun e he => ?_⟩
    rcases List.mem_cons.1 he with rfl | he
    · exact List.getElem_mem hj
    · exact ih.2 e he

theorem AbsRun.perm {α} {choose : Nat → Bool} {k : Nat} {xs : List α} {j : Nat} {r} (h : AbsRun choose k xs j r) :
    (((r.2.filter (·.2)).map (·.1)) ++ r.1).Perm xs := by
  induction h with
  | stop => exact .refl _
  | delete hj _ _ ih => exact (ih.cons _).trans (perm_cons_eraseIdx hj)
  | keep _ _ _ ih => exact ih

theorem AbsRun.none_deleted {α} {choose : Nat → Bool} {k : Nat} {xs : List α} {j : Nat} {r} (h : AbsRun choose k xs j r)
    (hl : r.1.length = xs.length) : ∀ e ∈ r.2, e.2 = false := by
  have hp := h.perm.length_eq
  rw [List.length_append, List.length_map, hl] at hp
  have hnil : r.2.filter (·.2) = [] := List.eq_nil_of_length_eq_zero (by omega)
  intro e he
  exact Bool.eq_false_iff.2 (List.filter_eq_nil_iff.1 hnil e he)

theorem AbsRun.yields_survivors {α} {choose : Nat → Bool} {k : Nat} {xs : List α} {j : Nat} {r} (h : AbsRun choose k xs j r) :
    ∀ a ∈ r.1, a ∈ xs.take j ∨ (a, false) ∈ r.2 := by
  induction h with
  | @stop _ xs j hj =>
    intro a ha
    rw [List.take_of_length_le (by omega)]
    exact .inl ha
  | delete _ _ _ ih =>
    intro a ha
    rcases ih a ha with h0 | h1
    · exact nomatch h0
    · exact .inr (List.mem_cons_of_mem _ h1)
  | keep hj _ _ ih =>
    intro a ha
    rcases ih a ha with h0 | h1
    · rw [List.take_succ_eq_append_getElem hj, List.mem_append, List.mem_singleton] at h0
      rcases h0 with h0 | rfl
      · exact .inl h0
      · exact .inr List.mem_cons_self
    · exact .inr (List.mem_cons_of_mem _ h1)

theorem AbsRun.deleted_gone {α} {choose : Nat → Bool} {k : Nat} {xs : List α} {j : Nat} {r} (h : AbsRun choose k xs j r)
    (hnd : xs.Nodup) :
    ∀ (l1 l2 : List (α × Bool)) (a : α), r.2 = l1 ++ (a, true) :: l2 → a ∉ l2.map (·.1) ∧ a ∉ r.1 := by
  induction h with
  | stop => intro l1 l2 a hl; cases l1 <;> cases hl
  | @delete _ xs j r hj _ hrun ih =>
    intro l1 l2 a hl
    cases l1 with
    | nil =>
      -- the element deleted now: the rest of the run works on a list that no longer holds it
      obtain ⟨rfl, rfl⟩ : xs[j] = a ∧ r.2 = l2 := by simpa using hl
      have hnot : xs[j] ∉ xs.eraseIdx j := (List.nodup_cons.1 ((perm_cons_eraseIdx hj).nodup_iff.2 hnd)).1
      obtain ⟨hs1, hs2⟩ := hrun.sublist
      refine ⟨fun hm => ?_, fun hm => hnot (hs1.subset hm)⟩
      obtain ⟨e, he, hea⟩ := List.mem_map.1 hm
      exact hnot (hea ▸ hs2 e he)
    | cons x l1 => exact ih (hnd.eraseIdx j) l1 l2 a (List.cons.inj hl).2
  | keep _ _ _ ih =>
    intro l1 l2 a hl
    cases l1 with
    | nil => simp at hl
    | cons x l1 => exact ih hnd l1 l2 a (List.cons.inj hl).2

theorem absWalk_sublist {α} (choose : Nat → Bool) :
    ∀ (fuel k : Nat) (xs : List α) (j : Nat) r, absWalk choose fuel k xs j = some r →
      r.1.Sublist xs ∧ ∀ e ∈ r.2, e.1 ∈ xs :=
  fun _ _ _ _ _ h => (absWalk_run h).sublist

theorem absWalk_perm {α} (choose : Nat → Bool) :
    ∀ (fuel k : Nat) (xs : List α) (j : Nat) r, absWalk choose fuel k xs j = some r →
      (((r.2.filter (·.2)).map (·.1)) ++ r.1).Perm xs :=
  fun _ _ _ _ _ h => (absWalk_run h).perm

theorem absWalk_yields_survivors {α} (choose : Nat → Bool) :
    ∀ (fuel k : Nat) (xs : List α) (j : Nat) r, absWalk choose fuel k xs j = some r →
      ∀ a ∈ r.1, a ∈ xs.take j ∨ (a, false) ∈ r.2 :=
  fun _ _ _ _ _ h => (absWalk_run h).yields_survivors

theorem absWalk_deleted_gone {α} (choose : Nat → Bool) :
    ∀ (fuel k : Nat) (xs : List α) (j : Nat) r, xs.Nodup → absWalk choose fuel k xs j = some r →
      ∀ (l1 l2 : List (α × Bool)) (a : α), r.2 = l1 ++ (a, true) :: l2 → a ∉ l2.map (·.1) ∧ a ∉ r.1 :=
  fun _ _ _ _ _ hnd h => (absWalk_run h).deleted_gone hnd

theorem map_eraseIdx' {α β} (g : α → β) (xs : List α) (j : Nat) : (xs.eraseIdx j).map g = (xs.map g).eraseIdx j := by
  rw [List.eraseIdx_eq_take_drop_succ, List.eraseIdx_eq_take_drop_succ, List.map_append, List.map_take, List.map_drop]

/-- the machine never looks at the elements -/
theorem absWalk_map {α β} (g : α → β) (choose : Nat → Bool) :
    ∀ (fuel k : Nat) (xs : List α) (j : Nat),
      absWalk choose fuel k (xs.map g) j = (absWalk choose fuel k xs j).map (fun r => (r.1.map g, r.2.map (fun e => (g e.1, e.2)))) := by
  intro fuel
  induction fuel with
  | zero => intro k xs j; rfl
  | succ f ih =>
    intro k xs j
    by_cases hj : j < xs.length
    · have hj' : j < (xs.map g).length := by rwa [List.length_map]
      cases hc : choose k
      · rw [absWalk_keep f hj hc, absWalk_keep f hj' hc, ih, Option.map_map, Option.map_map, List.getElem_map]
        rfl
      · rw [absWalk_delete f hj hc, absWalk_delete f hj' hc, ← map_eraseIdx', ih, Option.map_map, Option.map_map, List.getElem_map]
        rfl
    · rw [absWalk_stop choose f k hj, absWalk_stop choose f k (by rwa [List.length_map])]
      rfl

end Dns
