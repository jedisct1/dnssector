/-
  The laws of `Res` and of the primitives of Basic.lean, in three forms: equations, to rewrite a call whose outcome
  is known; inversions `(prim >>= f) = .ok r ↔ condition ∧ f value = .ok r`, which turn "this `do` block succeeded"
  into the conjunction of the checks it passed, in source order; the `Spec` calculus, for "this call returns, and
  on success …", composed along `>>=`.  First the laws of `Res`, then the primitives in the order of Basic.lean.
-/
import DnsModel.Basic
namespace Dns

namespace Res
variable {α β γ : Type}

theorem bind_assoc (x : Res α) (g : α → Res γ) (f : γ → Res β) :
    (x >>= g) >>= f = x >>= fun a => g a >>= f := by
  cases x <;> rfl

theorem bind_pure (x : Res α) : (x >>= fun a => Res.ok a) = x := by
  cases x <;> rfl

theorem bind_congr {x : Res α} {f g : α → Res β} (h : ∀ a, x = .ok a → f a = g a) :
    (x >>= f) = (x >>= g) := by
  cases x with
  | ok a => exact h a rfl
  | _ => rfl

theorem bind_ite (c : Prop) [Decidable c] (x y : Res α) (f : α → Res β) :
    ((if c then x else y) >>= f) = if c then (x >>= f) else (y >>= f) := by
  split <;> rfl

theorem isOk_iff {x : Res α} : x.isOk = true ↔ ∃ a, x = .ok a := by
  cases x <;> simp [isOk]

theorem of_guard {c : Prop} [Decidable c] {e : Err} {x r : Res α} (h : (if c then .err e else x) = r) :
    r = .err e ∨ ¬ c ∧ x = r := by
  split at h
  · exact .inl h.symm
  · exact .inr ⟨‹_›, h⟩

/-- branch by branch, for branches that share the tests `F` before and `E` after -/
theorem ite_ok_iff {c : Prop} [Decidable c] {a b : Res α} {r : α} {F A B E : Prop}
    (ha : a = .ok r ↔ F ∧ A ∧ E) (hb : b = .ok r ↔ F ∧ B ∧ E) :
    (if c then a else b) = .ok r ↔ F ∧ (if c then A else B) ∧ E := by
  split <;> assumption

/-- `x` returns, and what it returns on success satisfies `Q` -/
def Spec (x : Res α) (Q : α → Prop) : Prop := x.Returns ∧ ∀ a, x = .ok a → Q a

theorem spec_bind {x : Res α} {f : α → Res β} {Q : β → Prop}
    (h1 : x.Returns) (h2 : ∀ a, x = .ok a → (f a).Spec Q) : (x >>= f).Spec Q := by
  refine ⟨bind_returns h1 fun a ha => (h2 a ha).1, fun b h => ?_⟩
  obtain ⟨a, ha, hb⟩ := bind_eq_ok.1 h
  exact (h2 a ha).2 b hb

theorem Spec.bind {x : Res α} {f : α → Res β} {P : α → Prop} {Q : β → Prop}
    (hx : x.Spec P) (hf : ∀ a, P a → (f a).Spec Q) : (x >>= f).Spec Q :=
  spec_bind hx.1 fun a ha => hf a (hx.2 a ha)

theorem Spec.mono {x : Res α} {P Q : α → Prop} (hx : x.Spec P) (h : ∀ a, P a → Q a) : x.Spec Q :=
  ⟨hx.1, fun a ha => h a (hx.2 a ha)⟩

theorem spec_ok {Q : α → Prop} {a : α} (h : Q a) : (Res.ok a).Spec Q :=
  ⟨returns_ok a, fun _ e => Res.ok.inj e ▸ h⟩

theorem spec_err (Q : α → Prop) (e : Err) : (Res.err e : Res α).Spec Q := ⟨returns_err e, nofun⟩

theorem spec_ite {Q : α → Prop} {c : Prop} [Decidable c] {x y : Res α}
    (hx : c → x.Spec Q) (hy : ¬ c → y.Spec Q) : (if c then x else y).Spec Q := by
  split
  · exact hx ‹_›
  · exact hy ‹_›

theorem spec_guard (c : Prop) [Decidable c] (e : Err) (v : α) :
    (if c then .err e else .ok v : Res α).Spec fun a => ¬ c ∧ a = v :=
  spec_ite (fun _ => spec_err _ e) fun hc => spec_ok ⟨hc, rfl⟩

end Res

open Res

section
variable {β : Type} {p : Bytes} {r : β}

theorem failIf_bind (c : Bool) (e : Err) (k : Unit → Res β) :
    (failIf c e >>= k) = if c then Res.err e else k () := by
  cases c <;> rfl

theorem failIf_bind_ok {c : Bool} {e : Err} {f : Unit → Res β} :
    (failIf c e >>= f) = .ok r ↔ c = false ∧ f () = .ok r := by
  cases c <;> simp [failIf]

theorem failIf_spec (c : Bool) (e : Err) : (failIf c e).Spec fun _ => c = false := by
  cases c
  · exact spec_ok rfl
  · exact spec_err _ e

theorem failIf_returns (c : Bool) (e : Err) : (failIf c e).Returns := (failIf_spec c e).1

theorem idx_eq_panic {i : Nat} (h : idx p i = .panic) : p.length ≤ i := by
  rcases Nat.lt_or_ge i p.length with hlt | hge
  · obtain ⟨b, hb, _⟩ := idx_ok_of_lt hlt
    rw [hb] at h; cases h
  · exact hge

theorem idx_bind_ok {i : Nat} {f : Nat → Res β} :
    (idx p i >>= f) = .ok r ↔ i < p.length ∧ f (getB p i) = .ok r := by
  unfold idx getB
  cases h : byteAt p i with
  | none =>
    have : ¬ i < p.length := fun hi => by obtain ⟨b, hb, _⟩ := byteAt_of_lt hi; simp [h] at hb
    simp [this]
  | some b => simp [byteAt_lt_length h]

theorem be16_ok {i : Nat} (h : i + 2 ≤ p.length) : be16 p i = .ok (get16 p i) := (be16_ok_of_le h).1

theorem be16_bind_ok {i : Nat} {f : Nat → Res β} :
    (be16 p i >>= f) = .ok r ↔ i + 2 ≤ p.length ∧ f (get16 p i) = .ok r := by
  rcases be16_cases p i with ⟨h, e⟩ | ⟨h, e⟩ <;> simp [e, h]
  omega

theorem sub_ok {a b : Nat} (h : b ≤ a) : sub a b = .ok (a - b) := if_pos h

theorem sub_eq {a b c : Nat} (h : a = b + c) : sub a b = .ok c := by
  rw [sub_ok (by omega), h, Nat.add_sub_cancel_left]

theorem sub_bind_ok {a b : Nat} {f : Nat → Res β} : (sub a b >>= f) = .ok r ↔ b ≤ a ∧ f (a - b) = .ok r := by
  unfold sub
  split <;> simp [*]

theorem sub_spec {a b : Nat} (h : b ≤ a) : (sub a b).Spec fun _ => True :=
  sub_ok h ▸ spec_ok trivial

theorem sub_returns (a b : Nat) : (sub a b).Returns ∨ sub a b = .panic := by
  unfold sub; split
  · left; exact returns_ok _
  · right; rfl

theorem slice_ok {a b : Nat} (h : a ≤ b ∧ b ≤ p.length) : slice p a b = .ok ((p.drop a).take (b - a)) :=
  if_pos h

theorem slice_add {a n : Nat} (h : a + n ≤ p.length) : slice p a (a + n) = .ok ((p.drop a).take n) := by
  rw [slice_ok ⟨Nat.le_add_right a n, h⟩, Nat.add_sub_cancel_left]

theorem sliceFrom_ok {a : Nat} (h : a ≤ p.length) : sliceFrom p a = .ok (p.drop a) := if_pos h

theorem isPtr_eq_false {b : Nat} (h : b < 192) : isPtr b = false := by
  cases hp : isPtr b with
  | false => rfl
  | true => have := (isPtr_iff' b (by omega)).1 hp; omega

theorem isPtr_false_of_le {b : Nat} (h : b ≤ 63) : isPtr b = false := isPtr_eq_false (by omega)

end

theorem writeAt_ok {p : Bytes} {i : Nat} {v : Bytes} (h : i + v.length ≤ p.length) :
    writeAt p i v = .ok (p.take i ++ v ++ p.drop (i + v.length)) := by simp [writeAt, h]

theorem writeAt_inv {p p' : Bytes} {i : Nat} {v : Bytes} (h : writeAt p i v = .ok p') :
    i + v.length ≤ p.length ∧ p' = p.take i ++ v ++ p.drop (i + v.length) := by
  unfold writeAt at h
  split at h
  · exact ⟨‹_›, (Res.ok.inj h).symm⟩
  · cases h

theorem writeAt_length {p p' : Bytes} {i : Nat} {v : Bytes} (h : writeAt p i v = .ok p') : p'.length = p.length := by
  obtain ⟨hfit, rfl⟩ := writeAt_inv h
  simp only [List.length_append, List.length_take, List.length_drop]
  omega

theorem byteAt_writeAt {p p' : Bytes} {i : Nat} {v : Bytes} (h : writeAt p i v = .ok p') (j : Nat) :
    byteAt p' j = if j < i then byteAt p j else if j < i + v.length then byteAt v (j - i) else byteAt p j := by
  obtain ⟨hfit, rfl⟩ := writeAt_inv h
  have hl : (p.take i).length = i := by rw [List.length_take]; omega
  unfold byteAt
  by_cases h1 : j < i
  · rw [if_pos h1, List.append_assoc, List.getElem?_append_left (by omega), List.getElem?_take_of_lt h1]
  rw [if_neg h1, List.append_assoc, List.getElem?_append_right (by omega), hl]
  by_cases h2 : j < i + v.length
  · rw [if_pos h2, List.getElem?_append_left (by omega)]
  · rw [if_neg h2, List.getElem?_append_right (by omega), List.getElem?_drop]
    congr 2; omega

theorem writeAt_writeAt {p p' : Bytes} {i : Nat} {v : Bytes} (h : writeAt p i v = .ok p') (w : Bytes)
    (hw : w.length = v.length) : writeAt p' i w = writeAt p i w := by
  have hlen := writeAt_length h
  obtain ⟨hfit, rfl⟩ := writeAt_inv h
  have hl : (p.take i).length = i := by rw [List.length_take]; omega
  unfold writeAt
  rw [hlen, hw, List.drop_left' (by rw [List.length_append, hl]), List.append_assoc (List.take i p) v, List.take_left' hl]

theorem byteAt_put16 (v : Nat) : byteAt (put16 v) 0 = some (v / 256 % 256) ∧ byteAt (put16 v) 1 = some (v % 256) := by
  simp [put16, byteAt]

theorem get16_writeAt_put16 {p p' : Bytes} {i v : Nat} (h : writeAt p i (put16 v) = .ok p') (hv : v < 65536) :
    get16 p' i = v := by
  have h0 := byteAt_writeAt h i
  have h1 := byteAt_writeAt h (i + 1)
  have hl : (put16 v).length = 2 := rfl
  simp [hl] at h0 h1
  rw [(byteAt_put16 v).1] at h0
  rw [(byteAt_put16 v).2] at h1
  have hlt : ¬ (i + 1 < i) := by omega
  simp only [hlt, if_false] at h1
  simp only [get16, getB, h0, h1, Option.getD_some]
  omega

theorem byteAt_writeAt_other {p p' : Bytes} {i j : Nat} {v : Bytes} (h : writeAt p i v = .ok p')
    (hj : j < i ∨ i + v.length ≤ j) : byteAt p' j = byteAt p j := by
  rw [byteAt_writeAt h j]
  by_cases h1 : j < i
  · rw [if_pos h1]
  · rw [if_neg h1, if_neg (by omega)]

theorem byteAt_writeAt_put16_other {p p' : Bytes} {i v j : Nat} (h : writeAt p i (put16 v) = .ok p')
    (hj : j ≠ i ∧ j ≠ i + 1) : byteAt p' j = byteAt p j :=
  byteAt_writeAt_other h (by show j < i ∨ i + 2 ≤ j; omega)

theorem get16_writeAt_other {p p' : Bytes} {i v k : Nat} (h : writeAt p i (put16 v) = .ok p')
    (hk : k + 1 < i ∨ i + 1 < k) : get16 p' k = get16 p k := by
  unfold get16 getB
  rw [byteAt_writeAt_put16_other h (by omega), byteAt_writeAt_put16_other h (by omega)]

end Dns
