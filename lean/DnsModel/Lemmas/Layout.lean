/-
  The layout of an accepted packet (`C03.Layout`: the question and the three runs of record positions), which is
  unique, what `parse()` reports about it, and what the walks and the accessors return on it.  Each fact is stated
  for an arbitrary layout of the packet.
-/
import DnsModel.Lemmas.Edns
namespace Dns.C03
open Dns Res

/-- the three record sections of an accepted packet, as lists of record positions -/
structure Layout (p : Bytes) where
  qe : Nat
  answers : List RecPos
  authority : List RecPos
  additional : List RecPos
  e2 : Nat
  e3 : Nat
  o2 : Bool
  o3 : Bool
  o4 : Bool
  hq : NameEnds p 12 qe ∧ qe + 4 ≤ p.length
  ha : RRsL p .answer answers (qe + 4) false e2 o2
  hn : RRsL p .nameServers authority e2 o2 e3 o3
  hr : RRsL p .additional additional e3 o3 p.length o4
  na : answers.length = get16 p 6
  nn : authority.length = get16 p 8
  nr : additional.length = get16 p 10

theorem Layout.unique {p : Bytes} (L1 L2 : Layout p) :
    L1.qe = L2.qe ∧ L1.answers = L2.answers ∧ L1.authority = L2.authority ∧ L1.additional = L2.additional ∧
      L1.e2 = L2.e2 ∧ L1.e3 = L2.e3 := by
  have hq : L1.qe = L2.qe := nameEnds_functional L1.hq.1 L2.hq.1
  obtain ⟨ea, e2⟩ := (hq ▸ L1.ha).functional L2.ha (by rw [L1.na, L2.na])
  obtain ⟨en, e3⟩ := (e2 ▸ L1.hn).functional L2.hn (by rw [L1.nn, L2.nn])
  obtain ⟨er, -⟩ := (e3 ▸ L1.hr).functional L2.hr (by rw [L1.nr, L2.nr])
  exact ⟨hq, ea, en, er, e2, e3⟩

theorem layout_facts {p : Bytes} {v : View} (h : parse p = .ok v) (L : Layout p) :
    12 ≤ p.length ∧ v.offsetQuestion = some 12 ∧
      v.offsetAnswers = (if L.answers.length > 0 then some (L.qe + 4) else none) ∧
      v.offsetNameservers = (if L.authority.length > 0 then some L.e2 else none) ∧
      v.offsetAdditional = (if L.additional.length > 0 then some L.e3 else none) ∧
      (∀ r ∈ L.answers ++ L.authority, get16 p r.ne ≠ 41) ∧
      match firstOpt p L.additional with
      | none => v.info = EdnsInfo.none
      | some r => ∃ n, OptionsTile p (r.ne + 10) (r.ne + 10 + get16 p (r.ne + 8)) n ∧ v.info = optInfo p r.ne n := by
  obtain ⟨hl, _, qe, la, ln, lr, e2, o2, e3, o3, o4, i2, i3, hne, hq4, _, hla, hln, hlr, ra, rn, rr, ia, inn, ir,
    v1, v2, v3, v4⟩ := parse_ok_layout h
  obtain ⟨eq, ea, en, er, ee2, ee3⟩ :=
    L.unique ⟨qe, la, ln, lr, e2, e3, o2, o3, o4, ⟨hne, hq4⟩, ra, rn, rr, hla, hln, hlr⟩
  have na := ra.no_opt_of_sec (by decide)
  have nn := rn.no_opt_of_sec (by decide)
  obtain rfl : i2 = EdnsInfo.none := ia.no_opt na
  obtain rfl : i3 = EdnsInfo.none := inn.no_opt nn
  rw [eq, ea, en, er, ee2, ee3, hla, hln, hlr]
  exact ⟨hl, v1, v2, v3, v4, fun r hr => (List.mem_append.1 hr).elim (na r) (nn r), info_of_run rr ir⟩

theorem exists_layout {p : Bytes} {v : View} (h : parse p = .ok v) : Nonempty (Layout p) := by
  obtain ⟨_, _, qe, la, ln, lr, e2, o2, e3, o3, o4, _, _, hne, hq4, _, hla, hln, hlr, ra, rn, rr, _⟩ := parse_ok_layout h
  exact ⟨⟨qe, la, ln, lr, e2, e3, o2, o3, o4, ⟨hne, hq4⟩, ra, rn, rr, hla, hln, hlr⟩⟩

theorem layout_full {p : Bytes} {v : View} (h : parse p = .ok v) :
    ∃ L : Layout p, 12 ≤ p.length ∧ v.offsetQuestion = some 12 ∧
      v.offsetAnswers = (if L.answers.length > 0 then some (L.qe + 4) else none) ∧
      v.offsetNameservers = (if L.authority.length > 0 then some L.e2 else none) ∧
      v.offsetAdditional = (if L.additional.length > 0 then some L.e3 else none) ∧
      (∀ r ∈ L.answers ++ L.authority, get16 p r.ne ≠ 41) ∧
      match firstOpt p L.additional with
      | none => v.info = EdnsInfo.none
      | some r => ∃ n, OptionsTile p (r.ne + 10) (r.ne + 10 + get16 p (r.ne + 8)) n ∧ v.info = optInfo p r.ne n := by
  obtain ⟨L⟩ := exists_layout h
  exact ⟨L, layout_facts h L⟩

theorem accepted_layout {p : Bytes} {v : View} (h : parse p = .ok v) :
    ∃ L : Layout p, v.offsetQuestion = some 12 ∧
      v.offsetAnswers = (if L.answers.length > 0 then some (L.qe + 4) else none) ∧
      v.offsetNameservers = (if L.authority.length > 0 then some L.e2 else none) ∧
      v.offsetAdditional = (if L.additional.length > 0 then some L.e3 else none) ∧ 12 ≤ p.length := by
  obtain ⟨L⟩ := exists_layout h
  obtain ⟨hl, v1, v2, v3, v4, -⟩ := layout_facts h L
  exact ⟨L, v1, v2, v3, v4, hl⟩

/-- count and start of each record section as the iterators read them off the object `parse()` returns -/
theorem secInfo_of {p : Bytes} {v : View} (h : parse p = .ok v) (L : Layout p) :
    secInfo (PP.ofView p v) .answer = .ok (L.answers.length, if L.answers.length > 0 then some (L.qe + 4) else none) ∧
    secInfo (PP.ofView p v) .nameServers = .ok (L.authority.length, if L.authority.length > 0 then some L.e2 else none) ∧
    secInfo (PP.ofView p v) .additional = .ok (L.additional.length, if L.additional.length > 0 then some L.e3 else none) := by
  obtain ⟨hl, -, v2, v3, v4, -⟩ := layout_facts h L
  have cnt : ∀ i, i + 2 ≤ 12 → be16 p i = .ok (get16 p i) := fun i hi => be16_ok (by omega)
  refine ⟨?_, ?_, ?_⟩
  · simp [secInfo, PP.ofView, ancount, cnt 6 (by omega), L.na, v2]
  · simp [secInfo, PP.ofView, nscount, cnt 8 (by omega), L.nn, v3]
  · simp [secInfo, PP.ofView, arcount, cnt 10 (by omega), L.nr, v4]

theorem walks_of {p : Bytes} {v : View} (h : parse p = .ok v) (L : Layout p) :
      (∃ cs, collectWalk (PP.ofView p v) nextSkippingOpt (L.answers.length + 1) (Cursor.new .answer) = .ok cs ∧
        cs.map posOf = (nonOpt p L.answers).map some) ∧
      (∃ cs, collectWalk (PP.ofView p v) nextSkippingOpt (L.authority.length + 1) (Cursor.new .nameServers) = .ok cs ∧
        cs.map posOf = (nonOpt p L.authority).map some) ∧
      (∃ cs, collectWalk (PP.ofView p v) nextSkippingOpt (L.additional.length + 1) (Cursor.new .additional) = .ok cs ∧
        cs.map posOf = (nonOpt p L.additional).map some) ∧
      (∃ cs, collectWalk (PP.ofView p v) nextIncludingOpt (L.additional.length + 1) (Cursor.new .additional) = .ok cs ∧
        cs.map posOf = L.additional.map some) := by
  obtain ⟨ia, inn, ir⟩ := secInfo_of h L
  exact ⟨walk_skip (pp := PP.ofView p v) L.ha ia, walk_skip (pp := PP.ofView p v) L.hn inn,
    walk_skip (pp := PP.ofView p v) L.hr ir, walk_incl (pp := PP.ofView p v) L.hr ir⟩

theorem accessors {p : Bytes} {sec : Section} {r : RecPos} {ob oa : Bool} (hr : RRAtPos p sec r ob oa)
    (c : Cursor) (hc : posOf c = some r) :
    ∃ ls, ValidName p r.off ls r.ne ∧
      c.rawName p = .ok (encLabels ls ++ [0]) ∧
      c.name p = .ok (lowerBytes (joinText [] ls)) ∧
      c.rrType p = .ok (get16 p r.ne) ∧ c.rrClass p = .ok (get16 p (r.ne + 2)) ∧
      c.rrTtl p = .ok (get32 p (r.ne + 4)) ∧ c.rrRdlen p = .ok (get16 p (r.ne + 8)) := by
  obtain ⟨off, ne, next⟩ := r
  obtain ⟨ho, rfl, -⟩ := posOf_eq_some.1 hc
  obtain ⟨⟨ls, hv⟩, h10, -⟩ := hr
  have hgt : off < c.nameEnd := hv.2.1.lt
  have h10 : c.nameEnd + 10 ≤ p.length := h10
  have h1 := sliceFrom_ok (p := p) (a := c.nameEnd) (by omega)
  refine ⟨ls, hv, ?_, ?_, Cursor.word_at ho (k := 0) (by omega), Cursor.word_at ho (k := 2) (by omega), ?_,
    Cursor.word_at ho (k := 8) (by omega)⟩
  · simp only [Cursor.rawName, ho, unwrap, bind_ok, Nat.not_le.2 hgt, if_false, copyUncompressedName_valid hv, pure_eq]
  · simp only [Cursor.name, ho, unwrap, bind_ok, Nat.not_le.2 hgt, if_false, rawNameToStr_valid hv, pure_eq]
  · simp only [Cursor.rrTtl, be32, ho, unwrap, bind_ok, h1, DNS_RR_TTL_OFFSET,
      be16_ok (p := p) (i := c.nameEnd + 4) (by omega),
      be16_ok (p := p) (i := c.nameEnd + 4 + 2) (by omega), pure_eq, get32]

theorem section_of {p : Bytes} {v : View} (h : parse p = .ok v) (L : Layout p) :
      (∀ c : Cursor, c.offset = some 12 → c.currentSection (PP.ofView p v) = .ok .question) ∧
      (∀ r ∈ L.answers, ∀ c : Cursor, c.offset = some r.off → c.currentSection (PP.ofView p v) = .ok .answer) ∧
      (∀ r ∈ L.authority, ∀ c : Cursor, c.offset = some r.off → c.currentSection (PP.ofView p v) = .ok .nameServers) ∧
      (∀ r ∈ L.additional, ∀ c : Cursor, c.offset = some r.off → c.currentSection (PP.ofView p v) = .ok .additional) := by
  obtain ⟨-, v1, v2, v3, v4, -⟩ := layout_facts h L
  have hq : 12 < L.qe := L.hq.1.lt
  obtain ⟨ba, bam⟩ := L.ha.bounds
  obtain ⟨bn, bnm⟩ := L.hn.bounds
  obtain ⟨br, brm⟩ := L.hr.bounds
  have key := fun (c : Cursor) (o : Nat) (ho : c.offset = some o) (h12 : 12 ≤ o) =>
    currentSection_eq (pp := PP.ofView p v) ho v1 h12 v2 v3 v4
  refine ⟨?_, ?_, ?_, ?_⟩
  · intro c hc
    rw [key c 12 hc (Nat.le_refl _), if_neg, if_neg, if_neg] <;> omega
  · intro r hr c hc
    have := bam r hr
    have := List.length_pos_of_mem hr
    rw [key c _ hc (by omega), if_neg, if_neg, if_pos] <;> omega
  · intro r hr c hc
    have := bnm r hr
    have := List.length_pos_of_mem hr
    rw [key c _ hc (by omega), if_neg, if_pos] <;> omega
  · intro r hr c hc
    have := brm r hr
    have := List.length_pos_of_mem hr
    rw [key c _ hc (by omega), if_pos]
    omega

theorem current_section {p : Bytes} {v : View} (h : parse p = .ok v) :
    ∃ L : Layout p,
      (∀ c : Cursor, c.offset = some 12 → c.currentSection (PP.ofView p v) = .ok .question) ∧
      (∀ r ∈ L.answers, ∀ c : Cursor, c.offset = some r.off → c.currentSection (PP.ofView p v) = .ok .answer) ∧
      (∀ r ∈ L.authority, ∀ c : Cursor, c.offset = some r.off → c.currentSection (PP.ofView p v) = .ok .nameServers) ∧
      (∀ r ∈ L.additional, ∀ c : Cursor, c.offset = some r.off → c.currentSection (PP.ofView p v) = .ok .additional) := by
  obtain ⟨L⟩ := exists_layout h
  exact ⟨L, section_of h L⟩

end Dns.C03
