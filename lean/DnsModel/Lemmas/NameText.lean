/-
  `copy_raw_name_from_str`: the index-based loop is a left-to-right scan that
  cuts the text at dots; what the scan accepts and what it returns; the whole conversion, for any
  `raw_name` it appends to, in terms of the scan.
-/
import DnsModel.Synth
import DnsModel.Lemmas.Decode
import DnsModel.Spec.TextTokens
namespace Dns
open Res

/-- `none` is `InvalidName`; the bounds are those of /repo/src/synth/gen.rs: `label_len >= 63 - 1` and `c > 128` -/
def scan : List UInt8 → Bytes → Bytes → Option (Bytes × Bytes)
  | [], cur, out => some (out, cur)
  | c :: rest, cur, out =>
    if c = 46 then
      if cur = [] then none else scan rest [] (out ++ UInt8.ofNat cur.length :: cur)
    else if cur.length ≥ 62 then none
    else if c.toNat > 128 then none
    else scan rest (cur ++ [c]) out

/-- relation between the loop state and the scan state after the prefix `pre` of `name` -/
structure ScanInv (pre : Bytes) (st : NameSt) (cur : Bytes) : Prop where
  len : st.labelLen = cur.length
  pos : cur ≠ [] → st.labelStart + cur.length = pre.length ∧ pre.drop st.labelStart = cur

/-- The lone dot is excepted: the loop accepts it (`name.len() != 1`), the scan refuses every leading dot. -/
theorem rawNameLoop_scan (name : Bytes) (hname : name ≠ [46]) :
    ∀ (rest pre : Bytes) (st : NameSt) (cur : Bytes), name = pre ++ rest → ScanInv pre st cur →
      match scan rest cur st.out with
      | none => rawNameLoop name rest pre.length st = .err .invalidName
      | some (o, cur') => ∃ st', rawNameLoop name rest pre.length st = .ok st' ∧ st'.out = o ∧
          st'.labelLen = cur'.length ∧ (cur' ≠ [] → name.drop st'.labelStart = cur') := by
  intro rest
  induction rest with
  | nil =>
    intro pre st cur hn hinv
    simp only [scan, rawNameLoop]
    refine ⟨st, rfl, rfl, hinv.len, ?_⟩
    intro hc
    have := (hinv.pos hc).2
    simp at hn
    rw [hn]; exact this
  | cons c rest ih =>
    intro pre st cur hn hinv
    have hn' : name = (pre ++ [c]) ++ rest := by simp [hn]
    have hlen' : (pre ++ [c]).length = pre.length + 1 := by simp
    unfold scan rawNameLoop
    by_cases hc : c = 46
    · subst hc
      by_cases hcur : cur = []
      · subst hcur
        have hl0 : st.labelLen = 0 := by simpa using hinv.len
        have hne : (name.length != 1) = true := by
          rw [bne_iff_ne]
          intro h1
          obtain ⟨a, ha⟩ := List.length_eq_one_iff.1 h1
          have : (46 : UInt8) ∈ name := by rw [hn]; simp
          rw [ha, List.mem_singleton] at this
          exact hname (by rw [ha, this])
        simp [hl0, hne]
      · have hl : st.labelLen = cur.length := hinv.len
        have hpos := hinv.pos hcur
        have hlz : (st.labelLen == 0) = false := by
          have : cur.length ≠ 0 := by intro h; exact hcur (List.length_eq_zero_iff.1 h)
          simp [hl, this]
        simp only [beq_self_eq_true, hlz, Bool.and_false, Bool.false_eq_true, if_false, if_true, hcur]
        have hslice : (name.drop st.labelStart).take (pre.length - st.labelStart) = cur := by
          rw [hn, List.drop_append_of_le_length (by omega), hpos.2]
          have : pre.length - st.labelStart = cur.length := by omega
          rw [this]; simp
        rw [hslice, hl]
        have := ih (pre ++ [46]) { st with out := st.out ++ [UInt8.ofNat cur.length] ++ cur, labelLen := 0 } [] hn'
          ⟨rfl, by intro h; exact absurd rfl h⟩
        rw [hlen'] at this
        have e : st.out ++ [UInt8.ofNat cur.length] ++ cur = st.out ++ UInt8.ofNat cur.length :: cur := by simp
        simp only [e] at this
        simp only [e]
        exact this
    · have hc' : (c == 46) = false := by simp [hc]
      simp only [hc, hc', Bool.false_and, Bool.false_eq_true, if_false]
      rw [hinv.len]
      by_cases h62 : cur.length ≥ 62
      · have : cur.length ≥ 63 - 1 := by omega
        simp [this]
      · have h62' : ¬ (cur.length ≥ 63 - 1) := by omega
        simp only [h62', if_false]
        by_cases h128 : c.toNat > 128
        · simp [h128]
        · simp only [h128, if_false]
          by_cases hcur : cur = []
          · subst hcur
            simp only [List.length_nil, beq_self_eq_true, if_true, List.nil_append]
            have := ih (pre ++ [c]) { st with labelStart := pre.length, labelLen := 1 } [c] hn'
              ⟨rfl, by intro _; simp⟩
            rw [hlen'] at this
            exact this
          · have hz : (cur.length == 0) = false := by
              have : cur.length ≠ 0 := by intro h; exact hcur (List.length_eq_zero_iff.1 h)
              simp [this]
            simp only [hz, Bool.false_eq_true, if_false]
            have hpos := hinv.pos hcur
            have := ih (pre ++ [c]) { st with labelLen := cur.length + 1 } (cur ++ [c]) hn'
              ⟨by simp, by
                intro _
                refine ⟨by simp; omega, ?_⟩
                simp only
                rw [List.drop_append_of_le_length (by omega), hpos.2]⟩
            rw [hlen'] at this
            exact this

theorem scan_run (l rest cur out : Bytes) (h : TextRun (cur ++ l)) :
    scan (l ++ rest) cur out = scan rest (cur ++ l) out := by
  induction l generalizing cur with
  | nil => simp
  | cons c l ih =>
    have hc := h.2 c (by simp)
    have hl : cur.length < 62 := by have := h.1; simp at this; omega
    simp only [List.cons_append, scan]
    have h1 : ¬ (cur.length ≥ 62) := by omega
    have h2 : ¬ (c.toNat > 128) := by omega
    simp only [hc.1, if_false, h1, h2]
    have : cur ++ c :: l = (cur ++ [c]) ++ l := by simp
    rw [this] at h ⊢
    exact ih (cur ++ [c]) h

theorem scan_dotted (done : List Bytes) (cur out : Bytes) (hd : ∀ l ∈ done, TextLabel l) (hc : TextRun cur) :
    scan (dotted done ++ cur) [] out = some (out ++ encLabels done, cur) := by
  induction done generalizing out with
  | nil =>
    have := scan_run cur [] [] out (by simpa using hc)
    simp only [List.append_nil, List.nil_append] at this
    simp [dotted, this, scan, encLabels]
  | cons l done ih =>
    have hl := hd l (by simp)
    have e : dotted (l :: done) ++ cur = l ++ (46 :: (dotted done ++ cur)) := by simp [dotted]
    rw [e, scan_run l _ [] out (by simpa [TextRun] using ⟨hl.2.1, hl.2.2⟩)]
    simp only [List.nil_append, scan, if_true, hl.1, if_false]
    rw [ih _ (fun x hx => hd x (by simp [hx]))]
    simp [encLabels]

theorem scan_sound (rest cur out o cur' : Bytes) (hc : TextRun cur) (h : scan rest cur out = some (o, cur')) :
    ∃ done, cur ++ rest = dotted done ++ cur' ∧ (∀ l ∈ done, TextLabel l) ∧ TextRun cur' ∧ o = out ++ encLabels done := by
  induction rest generalizing cur out with
  | nil =>
    simp [scan] at h
    obtain ⟨rfl, rfl⟩ := h
    exact ⟨[], by simp [dotted], by simp, hc, by simp [encLabels]⟩
  | cons c rest ih =>
    unfold scan at h
    by_cases h46 : c = 46
    · subst h46
      simp only [if_true] at h
      by_cases hcur : cur = []
      · simp [hcur] at h
      · simp only [hcur, if_false] at h
        obtain ⟨done, h1, h2, h3, h4⟩ := ih [] _ ⟨by simp, by simp⟩ h
        refine ⟨cur :: done, ?_, ?_, h3, ?_⟩
        · simp only [List.nil_append] at h1
          simp [dotted, h1]
        · intro l hl
          simp at hl
          rcases hl with rfl | hl
          · exact ⟨hcur, hc.1, hc.2⟩
          · exact h2 l hl
        · simp [h4, encLabels]
    · simp only [h46, if_false] at h
      by_cases h62 : cur.length ≥ 62
      · simp [h62] at h
      · simp only [h62, if_false] at h
        by_cases h128 : c.toNat > 128
        · simp [h128] at h
        · simp only [h128, if_false] at h
          obtain ⟨done, h1, h2, h3, h4⟩ := ih (cur ++ [c]) out ⟨by simp; omega, by
            intro x hx
            simp at hx
            rcases hx with hx | rfl
            · exact hc.2 x hx
            · exact ⟨h46, by omega⟩⟩ h
          exact ⟨done, by simpa using h1, h2, h3, h4⟩

theorem scan_append (a r cur out : Bytes) :
    scan (a ++ r) cur out = match scan a cur out with
      | none => none
      | some (o, c') => scan r c' o := by
  induction a generalizing cur out with
  | nil => simp [scan]
  | cons c a ih =>
    simp only [List.cons_append, scan]
    split
    · split
      · rfl
      · exact ih _ _
    · split
      · rfl
      · split
        · rfl
        · exact ih _ _

theorem scan_reject_empty (a b cur out : Bytes) : scan (a ++ 46 :: 46 :: b) cur out = none := by
  rw [scan_append]
  cases scan a cur out with
  | none => rfl
  | some x =>
    obtain ⟨o, c'⟩ := x
    simp only [scan, if_true]
    by_cases h : c' = [] <;> simp [h]

theorem scan_reject_long (a l b cur out : Bytes) (hl : l.length ≥ 63) (hd : ∀ c ∈ l, c ≠ 46) :
    scan (a ++ l ++ b) cur out = none := by
  rw [List.append_assoc, scan_append]
  cases scan a cur out with
  | none => rfl
  | some x =>
    -- whatever label is pending after `a`, 63 more dot-free bytes overflow it
    suffices ∀ (l c' : Bytes), l ≠ [] → c'.length + l.length ≥ 63 → (∀ c ∈ l, c ≠ 46) → scan (l ++ b) c' x.1 = none from
      this l x.2 (by rintro rfl; exact absurd hl (by decide)) (by omega) hd
    intro l
    induction l with
    | nil => intro c' h; exact absurd rfl h
    | cons c l ih =>
      intro c' _ h hd
      simp only [List.cons_append, scan, hd c (by simp), if_false]
      split
      · rfl
      · split
        · rfl
        · exact ih _ (by rintro rfl; simp at h; omega) (by simp at h ⊢; omega) (fun x hx => hd x (by simp [hx]))

theorem scan_prefix (raw l cur out : Bytes) :
    scan l cur (raw ++ out) = (scan l cur out).map fun x => (raw ++ x.1, x.2) := by
  induction l generalizing cur out with
  | nil => rfl
  | cons c l ih =>
    simp only [scan]
    split
    · split
      · rfl
      · rw [← ih, List.append_assoc]
    · split
      · rfl
      · split
        · rfl
        · exact ih _ _

/-- what the tail of `copy_raw_name_from_str` makes of the scan's result -/
def finishSpec (o cur : Bytes) (zone : Option Bytes) : Bytes :=
  o ++ (if cur = [] then [0] else UInt8.ofNat cur.length :: cur ++ zone.getD [0])

theorem copyRaw_eq_scan (raw name : Bytes) (zone : Option Bytes) (hname : name ≠ [46]) :
    copyRawNameFromStr raw name zone =
      if name.length > 253 then .err .invalidName
      else match scan name [] raw with
        | none => .err .invalidName
        | some (o, cur) =>
          if (finishSpec o cur zone).length - raw.length > 253 then .err .invalidName else .ok (finishSpec o cur zone) := by
  unfold copyRawNameFromStr
  simp only [failIf_bind, decide_eq_true_eq, pure_eq]
  split
  · rfl
  have h := rawNameLoop_scan name hname name [] { out := raw } [] rfl ⟨rfl, fun h => absurd rfl h⟩
  simp only [List.length_nil] at h
  cases hs : scan name [] raw with
  | none => rw [hs] at h; simp only at h; rw [h]; rfl
  | some x =>
    obtain ⟨o, cur⟩ := x
    rw [hs] at h
    obtain ⟨st', hr, h1, h2, h3⟩ := h
    have hfin : ∀ tl : Bytes, (if (st'.labelLen == 0) = true then st'.out ++ [0]
        else st'.out ++ [UInt8.ofNat st'.labelLen] ++ name.drop st'.labelStart ++ tl) = finishSpec o cur (some tl) := by
      intro tl
      unfold finishSpec
      by_cases hc : cur = []
      · subst hc; simp [h1, h2]
      · have : cur.length ≠ 0 := fun h => hc (List.length_eq_zero_iff.1 h)
        simp [hc, h1, h2, h3 hc, this]
    -- without a zone the tail is the root byte: `finishSpec o cur none` is `finishSpec o cur (some [0])`
    cases zone with
    | none => simp only [hr, bind_ok, hfin [0]]; rfl
    | some z => simp only [hr, bind_ok, hfin z]

theorem copyRaw_dot (raw : Bytes) (zone : Option Bytes) : copyRawNameFromStr raw [46] zone = .ok (raw ++ [0]) := by
  simp [copyRawNameFromStr, failIf, rawNameLoop]

theorem copyRaw_append (raw name : Bytes) (zone : Option Bytes) :
    copyRawNameFromStr raw name zone = rawNameFromStr name zone >>= fun o => .ok (raw ++ o) := by
  unfold rawNameFromStr
  by_cases hname : name = [46]
  · rw [hname, copyRaw_dot, copyRaw_dot]; rfl
  · rw [copyRaw_eq_scan raw name zone hname, copyRaw_eq_scan [] name zone hname]
    split
    · rfl
    · have := scan_prefix raw name [] []
      rw [List.append_nil] at this
      rw [this]
      cases scan name [] [] with
      | none => rfl
      | some x =>
        have e : finishSpec (raw ++ x.1) x.2 zone = raw ++ finishSpec x.1 x.2 zone := List.append_assoc ..
        simp only [Option.map_some, e, List.length_append, List.length_nil, Nat.sub_zero, Nat.add_sub_cancel_left]
        split <;> rfl

theorem copyRaw_returns (raw name : Bytes) (zone : Option Bytes) : (copyRawNameFromStr raw name zone).Returns := by
  by_cases hname : name = [46]
  · rw [hname, copyRaw_dot]; exact returns_ok _
  · rw [copyRaw_eq_scan raw name zone hname]
    split
    · exact returns_err _
    · split
      · exact returns_err _
      · split
        · exact returns_err _
        · exact returns_ok _

namespace C14

theorem encLabels_labelsOf (done : List Bytes) (cur : Bytes) (tail : Bytes) :
    encLabels (labelsOf done cur) ++ tail =
      encLabels done ++ (if cur = [] then tail else UInt8.ofNat cur.length :: cur ++ tail) := by
  unfold labelsOf
  by_cases h : cur = []
  · simp [h]
  · simp [h, encLabels_append, encLabels]

theorem finishSpec_labels (done : List Bytes) (cur : Bytes) (zone : Option Bytes) :
    finishSpec (encLabels done) cur zone = encLabels (labelsOf done cur) ++ (if cur = [] then [0] else zone.getD [0]) := by
  unfold finishSpec
  rw [encLabels_labelsOf]
  by_cases h : cur = [] <;> simp [h]

theorem dotted_length (done : List Bytes) : (dotted done).length = labSum done := by
  induction done with
  | nil => rfl
  | cons l done ih => simp [dotted, labSum_cons] at ih ⊢; omega

theorem text_le_wire (done : List Bytes) (cur tail : Bytes) :
    (dotted done ++ cur).length ≤ (encLabels (labelsOf done cur) ++ tail).length := by
  simp only [List.length_append, dotted_length, encLabels_length]
  unfold labelsOf
  by_cases h : cur = []
  · simp [h]
  · simp [h, labSum]; omega

theorem okLabel_of_text {l : Bytes} (h : TextLabel l) : okLabel l := ⟨by
  have := h.1
  cases l with
  | nil => exact absurd rfl this
  | cons _ _ => simp, by have := h.2.1; omega⟩

theorem forall_labelsOf {P : Bytes → Prop} {done : List Bytes} {cur : Bytes} (hd : ∀ l ∈ done, P l) (hc : cur = [] ∨ P cur) :
    ∀ l ∈ labelsOf done cur, P l := by
  unfold labelsOf
  rcases hc with rfl | hc
  · simpa using hd
  · split
    · exact hd
    · intro l hl
      rcases List.mem_append.1 hl with hl | hl
      · exact hd l hl
      · rw [List.mem_singleton.1 hl]; exact hc

theorem labelsOf_text {done : List Bytes} {cur : Bytes} (hd : ∀ l ∈ done, TextLabel l) (hc : TextRun cur) :
    ∀ l ∈ labelsOf done cur, TextLabel l :=
  forall_labelsOf hd (if h : cur = [] then .inl h else .inr ⟨h, hc.1, hc.2⟩)

theorem escapeLabel_nodot {l : Bytes} (h : ∀ c ∈ l, c ≠ 46) : escapeLabel l = l := by
  unfold escapeLabel
  induction l with
  | nil => rfl
  | cons c t ih =>
    have hc : (c == 46) = false := by simpa using h c (by simp)
    simp only [List.flatMap_cons, hc, Bool.false_eq_true, if_false]
    rw [ih (fun x hx => h x (by simp [hx]))]
    rfl

theorem joinText_ne (res : Bytes) (hr : res ≠ []) (ls : List Bytes) (hl : ∀ l ∈ ls, TextLabel l) :
    joinText res ls = res ++ ls.flatMap (fun l => 46 :: l) := by
  induction ls generalizing res with
  | nil => simp [joinText]
  | cons l ls ih =>
    have h1 := hl l (by simp)
    have hemp : res.isEmpty = false := by cases res with
      | nil => exact absurd rfl hr
      | cons _ _ => rfl
    have : joinText res (l :: ls) = joinText (res ++ [46] ++ l) ls := by
      simp [joinText, hr, escapeLabel_nodot (fun c hc => (h1.2.2 c hc).1)]
    rw [this, ih _ (by simp) (fun x hx => hl x (by simp [hx]))]
    simp

theorem flat_dot (ls : List Bytes) : ls.flatMap (fun l => 46 :: l) ++ [46] = 46 :: dotted ls := by
  induction ls with
  | nil => simp [dotted]
  | cons l ls ih =>
    simp only [List.flatMap_cons, List.append_assoc, ih]
    simp [dotted]

theorem joinText_labelsOf {done : List Bytes} {cur : Bytes} (hd : ∀ l ∈ done, TextLabel l) (hc : TextRun cur) :
    joinText [] (labelsOf done cur) = if cur = [] then (dotted done).dropLast else dotted done ++ cur := by
  have ht := labelsOf_text hd hc
  cases hls : labelsOf done cur with
  | nil =>
    unfold labelsOf at hls
    by_cases h : cur = []
    · simp [h] at hls; subst hls; simp [h, joinText, dotted]
    · simp [h] at hls
  | cons l ls =>
    rw [hls] at ht
    have h1 := ht l (by simp)
    have : joinText [] (l :: ls) = joinText l ls := by
      simp [joinText, escapeLabel_nodot (fun c hc => (h1.2.2 c hc).1)]
    rw [this, joinText_ne l h1.1 ls (fun x hx => ht x (by simp [hx]))]
    unfold labelsOf at hls
    by_cases h : cur = []
    · simp only [h, if_true] at hls ⊢
      subst hls
      have := flat_dot ls
      have e : dotted (l :: ls) = (l ++ ls.flatMap (fun l => 46 :: l)) ++ [46] := by
        rw [List.append_assoc, this]; simp [dotted]
      rw [e]; simp
    · simp only [h, if_false] at hls ⊢
      -- done ++ [cur] = l :: ls
      cases done with
      | nil =>
        simp at hls
        obtain ⟨rfl, rfl⟩ := hls
        simp [dotted]
      | cons d ds =>
        simp at hls
        obtain ⟨rfl, rfl⟩ := hls
        have := flat_dot ds
        simp only [List.flatMap_append, List.flatMap_cons, List.flatMap_nil, List.append_nil]
        have e : dotted (d :: ds) = d ++ 46 :: dotted ds := by simp [dotted]
        rw [e, ← this]
        simp

end C14

end Dns
