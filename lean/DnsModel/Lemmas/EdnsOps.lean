/-
  How `EdnsOK` (the object's EDNS summary is the one its additional pieces determine) is
  kept when a plain object is rebased, gains a record, has a record replaced or loses one (C08 applies
  these to the mutators), and how the OPT record is told from the others in the packet and among the pieces
  (`isOpt_iff_type`, `others_visible`, `map_if_optLt`), which C11's walk uses as well.
-/
import DnsModel.Lemmas.EdnsPieces
import DnsModel.Lemmas.SetName
import DnsModel.Lemmas.HeaderSet
import DnsModel.Lemmas.InsertRec
namespace Dns
open Res

theorem ednsInfo_moved (pp pp' : PP) (f : Nat → Nat) (h1 : pp'.offsetEdns = pp.offsetEdns.map f) (h2 : pp'.ednsCount = pp.ednsCount)
    (h3 : pp'.extRcode = pp.extRcode) (h4 : pp'.ednsVersion = pp.ednsVersion) (h5 : pp'.extFlags = pp.extFlags)
    (h6 : pp'.maxPayload = pp.maxPayload) : pp'.ednsInfo = pp.ednsInfo.moved f := by
  unfold PP.ednsInfo EdnsInfo.moved
  simp only [h1, h2, h3, h4, h5, h6]

theorem start_additional {pp : PP} (P : PlainObj pp) :
    P.start .additional = 12 + labSum P.qls + 1 + 4 + P.A.flatten.length + P.N.flatten.length := rfl

theorem ednsOK_rebased {pp0 : PP} {u : Bytes} {v2 : View} (P : PlainObj (pp0.rebased u v2)) (h2 : parse u = .ok v2)
    (e1 : pp0.ednsCount = v2.ednsCount) (e2 : pp0.extRcode = v2.extRcode) (e3 : pp0.ednsVersion = v2.ednsVersion)
    (e4 : pp0.extFlags = v2.extFlags) (e5 : pp0.maxPayload = v2.maxPayload) : EdnsOK P := by
  unfold EdnsOK
  have := P.parse_info (v := v2) h2
  have e : (pp0.rebased u v2).ednsInfo = v2.info := by
    unfold PP.ednsInfo View.info PP.rebased
    simp only [e1, e2, e3, e4, e5]
  rw [e]; exact this

theorem ednsOK_insert_before {pp pp' : PP} (P : PlainObj pp) (P' : PlainObj pp') (h : EdnsOK P) (len : Nat)
    (hR : P'.R = P.R) (hst : P'.start .additional = P.start .additional + len)
    (hf : pp' = { pp with packet := pp'.packet, offsetAnswers := pp'.offsetAnswers, offsetNameservers := pp'.offsetNameservers,
                          offsetAdditional := pp'.offsetAdditional, offsetEdns := pp.offsetEdns.map (· + len) }) : EdnsOK P' := by
  unfold EdnsOK at h ⊢
  have hi : pp'.ednsInfo = pp.ednsInfo.moved (· + len) := by
    rw [hf]; rfl
  rw [hi, hR, hst]
  have := h.shift (P.start .additional + len)
  rw [moved_congr (g := (· + len)) (by intro x _; show x + (P.start .additional + len) - P.start .additional = x + len; omega)] at this
  exact this

theorem ednsOK_insert_additional {pp pp' : PP} (P : PlainObj pp) (P' : PlainObj pp') (h : EdnsOK P) (rr : Bytes)
    (hn : isOptPiece rr = false) (hR : P'.R = P.R ++ [rr]) (hst : P'.start .additional = P.start .additional)
    (hf : pp' = { pp with packet := pp'.packet, offsetAnswers := pp'.offsetAnswers, offsetNameservers := pp'.offsetNameservers,
                          offsetAdditional := pp'.offsetAdditional }) : EdnsOK P' := by
  unfold EdnsOK at h ⊢
  have hi : pp'.ednsInfo = pp.ednsInfo := by rw [hf]; rfl
  rw [hi, hR, hst]
  exact h.append rr hn

theorem ednsOK_same {pp pp' : PP} (P : PlainObj pp) (P' : PlainObj pp') (h : EdnsOK P)
    (hR : P'.R = P.R) (hst : P'.start .additional = P.start .additional) (hi : pp'.ednsInfo = pp.ednsInfo) : EdnsOK P' := by
  unfold EdnsOK at h ⊢
  rw [hi, hR, hst]; exact h

/-- `mid` holds one piece for set-name, TTL, address, none for delete; `hi`: the summary's position moves as
`resize_rr` moves it -/
theorem ednsOK_splice {pp pp' : PP} (P : PlainObj pp) (P' : PlainObj pp') (h : EdnsOK P) (sec : Section) (hs : sec.isRec = true)
    {ps1 ps2 mid : List Bytes} {rc : Bytes} (hsplit : P.lst sec = ps1 ++ rc :: ps2) (hn : isOptPiece rc = false)
    (hm : ∀ r ∈ mid, isOptPiece r = false)
    (f1 : P'.lst sec = ps1 ++ mid ++ ps2) (f2 : ∀ s, s ≠ sec → P'.lst s = P.lst s) (f3 : P'.qls = P.qls)
    (hi : pp'.ednsInfo = pp.ednsInfo.moved
      (fun x => if P.start sec + ps1.flatten.length < x then x + mid.flatten.length - rc.length else x)) :
    EdnsOK P' := by
  unfold EdnsOK at h ⊢
  rw [hi]
  by_cases hadd : sec = .additional
  · subst hadd
    rw [show P'.R = _ from f1, P.start_congr P' .additional f3 f2]
    rw [show P.R = _ from hsplit] at h
    exact h.splice hn hm
  · -- an earlier section: the additional section moves as a whole
    have hle := P.start_mono hs (Section.before_additional hs hadd)
    have hfl := mid_flatten ps1 ps2 rc
    rw [← hsplit] at hfl
    have hst := P.start_additional_moved P' hs hadd f3 f2
    rw [f1, hfl] at hst
    simp only [List.flatten_append, List.length_append] at hst
    rw [show P'.R = P.R from f2 .additional (Ne.symm hadd)]
    have := h.shift (P'.start .additional)
    rwa [moved_congr (g := fun x => if P.start sec + ps1.flatten.length < x then x + mid.flatten.length - rc.length else x)] at this
    intro x hx
    have := h.start_ge x hx
    rw [if_pos (by omega)]
    omega

theorem ednsOK_replace {pp pp' : PP} (P : PlainObj pp) (P' : PlainObj pp') (h : EdnsOK P) (sec : Section) (hs : sec.isRec = true)
    {ps1 ps2 : List Bytes} {rc rc' : Bytes} (hsplit : P.lst sec = ps1 ++ rc :: ps2) (hn : isOptPiece rc = false) (hn' : isOptPiece rc' = false)
    (f1 : P'.lst sec = ps1 ++ rc' :: ps2) (f2 : ∀ s, s ≠ sec → P'.lst s = P.lst s) (f3 : P'.qls = P.qls)
    (hi : pp'.ednsInfo = pp.ednsInfo.moved (fun x => if P.start sec + ps1.flatten.length < x then x + rc'.length - rc.length else x)) :
    EdnsOK P' :=
  ednsOK_splice P P' h sec hs (mid := [rc']) hsplit hn (fun r hr => by rw [List.mem_singleton.1 hr]; exact hn')
    (by rw [f1, List.append_assoc]; rfl) f2 f3
    (by rw [hi]; simp only [List.flatten_cons, List.flatten_nil, List.append_nil])

theorem ednsOK_remove {pp pp' : PP} (P : PlainObj pp) (P' : PlainObj pp') (h : EdnsOK P) (sec : Section) (hs : sec.isRec = true)
    {ps1 ps2 : List Bytes} {rc : Bytes} (hsplit : P.lst sec = ps1 ++ rc :: ps2) (hn : isOptPiece rc = false)
    (f1 : P'.lst sec = ps1 ++ ps2) (f2 : ∀ s, s ≠ sec → P'.lst s = P.lst s) (f3 : P'.qls = P.qls)
    (hi : pp'.ednsInfo = pp.ednsInfo.moved (fun x => if P.start sec + ps1.flatten.length < x then x - rc.length else x)) :
    EdnsOK P' :=
  ednsOK_splice P P' h sec hs (mid := []) hsplit hn (fun r hr => nomatch hr) (by rw [f1, List.append_nil]) f2 f3
    (by rw [hi]; rfl)

/-- at most one OPT -/
theorem others_visible {pp : PP} (P : PlainObj pp) {R1 R2 : List Bytes} {rc : Bytes} (hsplit : P.R = R1 ++ rc :: R2)
    (ho : isOptPiece rc = true) : (∀ r ∈ R1, isOptPiece r = false) ∧ (∀ r ∈ R2, isOptPiece r = false) := by
  have hR := P.hR
  rw [hsplit, P.o3_false] at hR
  obtain ⟨om, h1, h2⟩ := Pieces.split hR
  cases h2 with
  | @cons _ _ _ om' _ hp hrest =>
    obtain ⟨owner, f8, rd, hrc, hgo, hf8, _, _, h41⟩ := piece_shape hp
    have hshape : isOptPiece ((encLabels owner ++ [0]) ++ f8 ++ (put16 rd.length ++ rd)) = true := by
      rw [← ho, hrc]; simp only [List.append_assoc]
    obtain ⟨_, hom, hom'⟩ := h41 ((isOptPiece_shape owner f8 _ hgo hf8).1 hshape).2
    subst hom; subst hom'
    exact ⟨noopt_of_pieces h1, noopt_after_opt hrest⟩

theorem ednsOK_remove_opt {pp pp' : PP} (P : PlainObj pp) (P' : PlainObj pp')
    {ps1 ps2 : List Bytes} {rc : Bytes} (hsplit : P.R = ps1 ++ rc :: ps2) (ho : isOptPiece rc = true)
    (f1 : P'.R = ps1 ++ ps2) (hi : pp'.ednsInfo = EdnsInfo.none) : EdnsOK P' := by
  obtain ⟨h1, h2⟩ := others_visible P hsplit ho
  unfold EdnsOK
  rw [hi, f1]
  exact EdnsOf.none_of_noopt (fun r hr => (List.mem_append.1 hr).elim (h1 r) (h2 r)) _

/-- the position field after `resize_rr`, as a map over the old position -/
theorem map_if_optLt (oe : Option Nat) (off : Nat) (g : Nat → Nat) :
    (if optLt (some off) oe then oe.map g else oe) = oe.map (fun x => if off < x then g x else x) := by
  cases oe with
  | none => simp [optLt]
  | some x =>
    by_cases h : off < x
    · simp [optLt, h]
    · simp [optLt, h]

theorem isOpt_iff_type {pp : PP} (P : PlainObj pp) (sec : Section) (hs : sec.isRec = true) {ps1 ps2 : List Bytes} {rc : Bytes}
    (hsplit : P.lst sec = ps1 ++ rc :: ps2) {ne : Nat} {ob oa : Bool}
    (hr : RRAtPos pp.packet sec ⟨P.start sec + ps1.flatten.length, ne, P.start sec + ps1.flatten.length + rc.length⟩ ob oa) :
    (isOptPiece rc = true ↔ get16 pp.packet ne = 41) ∧ (get16 pp.packet ne = 41 → sec = .additional) := by
  obtain ⟨owner, f8, rd, pre, post, hpk, hprel, hrc, hgo, hf8, hlt, hnon, hne', hty⟩ := P.shape_at sec hs hsplit hr
  have hshape := isOptPiece_shape owner f8 (put16 rd.length ++ rd) hgo hf8
  rw [← List.append_assoc, ← hrc] at hshape
  have hbody := hr.2.2.2.2
  simp only at hbody
  refine ⟨⟨fun h => by rw [hty]; exact (hshape.1 h).2, fun h => ?_⟩, fun h => ?_⟩
  · rw [if_pos h] at hbody
    have h1 : ne = P.start sec + ps1.flatten.length + 1 := hbody.2.1
    have ho : owner = [] := by
      cases owner with
      | nil => rfl
      | cons l ls => rw [labSum_cons] at hne'; omega
    exact hshape.2 ⟨ho, by rw [← hty]; exact h⟩
  · rw [if_pos h] at hbody
    exact hbody.1

end Dns
