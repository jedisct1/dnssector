/-
  The validator accepts exactly what Spec/Wire.lean calls well-formed:
  options ↔ OptionsTile, parse_rr ↔ RRAt, section loops ↔ RRs, parse ↔ WF.
-/
import DnsModel.Lemmas.SectorTotal
import DnsModel.Lemmas.Bits
namespace Dns
open Res Sector

theorem ednsSkipRr_bind_ok {β : Type} {p : Bytes} {s : Sector} {e : Nat} {f : Sector → Res β} {r : β}
    (he : s.ednsEnd = some e) (h1 : s.offset ≤ e) (h2 : e ≤ p.length) :
    (ednsSkipRr p s >>= f) = .ok r ↔ s.offset + 4 + get16 p (s.offset + 2) ≤ e ∧
      f { s with offset := s.offset + 4 + get16 p (s.offset + 2) } = .ok r := by
  have hrem : ednsRemainingLen s = .ok (e - s.offset) := by simp only [ednsRemainingLen, he, sub, h1, if_true]
  simp only [ednsSkipRr, ednsRrRdlen, ednsBe16Load, ednsIncrementOffset, ednsEnsureRemainingLen, hrem, bind_ok,
    Res.bind_assoc, failIf_bind_ok, idx_bind_ok, pure_eq, decide_eq_false_iff_not, DNS_EDNS_RR_RDLEN_OFFSET,
    DNS_EDNS_RR_HEADER_SIZE, ← show get16 p (s.offset + 2) = _ * 256 + _ from rfl]
  rw [← Nat.add_assoc]
  constructor
  · rintro ⟨_, _, _, hfit, h⟩; exact ⟨by omega, h⟩
  · rintro ⟨hfit, h⟩; exact ⟨by omega, by omega, by omega, by omega, h⟩

theorem OptionsTile.step_iff {p : Bytes} {a b n : Nat} (h : a < b) :
    OptionsTile p a b n ↔ ∃ m, n = m + 1 ∧ a + 4 + get16 p (a + 2) ≤ b ∧ OptionsTile p (a + 4 + get16 p (a + 2)) b m := by
  constructor
  · intro ht
    cases ht with
    | done => omega
    | opt hfit ht => exact ⟨_, rfl, hfit, ht⟩
  · rintro ⟨m, rfl, hfit, ht⟩
    exact .opt hfit ht

theorem OptionsTile.empty_iff {p : Bytes} {a n : Nat} : OptionsTile p a a n ↔ n = 0 := by
  constructor
  · intro ht
    generalize hb : a = b at ht
    cases ht with
    | done => rfl
    | opt hfit _ => omega
  · rintro rfl
    exact .done a

theorem OptionsTile.functional {p : Bytes} {a b n m : Nat} (h1 : OptionsTile p a b n) (h2 : OptionsTile p a b m) :
    n = m := by
  induction h1 generalizing m with
  | done a =>
    generalize hb : a = b at h2
    cases h2 with
    | done => rfl
    | opt hfit _ => omega
  | @opt a b n hfit _ ih =>
    cases h2 with
    | done => omega
    | opt _ h2' => rw [ih h2']

theorem optLoop_ok_iff {p : Bytes} {fuel : Nat} {s s' : Sector} {e : Nat} (he : s.ednsEnd = some e)
    (h1 : s.offset ≤ e) (h2 : e ≤ p.length) (hf : (e - s.offset) / 4 + 1 ≤ fuel) :
    optLoop p fuel s = .ok s' ↔
      ∃ n, OptionsTile p s.offset e n ∧ s' = { s with offset := e, ednsCount := s.ednsCount + n } := by
  induction fuel generalizing s s' with
  | zero => omega
  | succ k ih =>
    have hrem : ednsRemainingLen s = .ok (e - s.offset) := by simp only [ednsRemainingLen, he, sub, h1, if_true]
    unfold optLoop
    rw [hrem]
    by_cases hpos : e - s.offset > 0
    · simp only [bind_ok, hpos, if_true, ednsSkipRr_bind_ok he h1 h2, OptionsTile.step_iff (show s.offset < e by omega)]
      constructor
      · rintro ⟨hfit, h⟩
        obtain ⟨m, ht, rfl⟩ := (ih (by exact he) hfit (by simp only; omega)).1 h
        exact ⟨m + 1, ⟨m, rfl, hfit, ht⟩, by simp only [Nat.add_assoc, Nat.add_comm 1]⟩
      · rintro ⟨_, ⟨m, rfl, hfit, ht⟩, rfl⟩
        exact ⟨hfit, (ih (by exact he) hfit (by simp only; omega)).2 ⟨m, ht, by simp only [Nat.add_assoc, Nat.add_comm 1]⟩⟩
    · have : e = s.offset := by omega
      subst this
      simp only [bind_ok, hpos, if_false, pure_eq, ok.injEq, OptionsTile.empty_iff]
      constructor
      · rintro rfl; exact ⟨0, rfl, rfl⟩
      · rintro ⟨_, rfl, rfl⟩; rfl

theorem nameEnds_iff (p : Bytes) (off e : Nat) : checkCompressedName p off = .ok e ↔ NameEnds p off e :=
  checkCompressedName_ok_iff p off e

theorem nameEnds_functional {p : Bytes} {off a b : Nat} (h1 : NameEnds p off a) (h2 : NameEnds p off b) : a = b := by
  have g1 := (nameEnds_iff _ _ _).2 h1
  have g2 := (nameEnds_iff _ _ _).2 h2
  rw [g1] at g2
  simpa using g2

theorem NameEnds.lt {p : Bytes} {off e : Nat} : NameEnds p off e → off < e
  | ⟨_, hv⟩ => hv.2.1.lt

/-- the state in which `parse_opt`, called with the cursor at `o`, enters the option loop -/
def optState (p : Bytes) (o : Nat) : Sector :=
  { offset := o + 10, ednsStart := some (o + 10), ednsEnd := some (o + 10 + get16 p (o + 8)), ednsCount := 0,
    extRcode := some (getB p (o + 4)), ednsVersion := some (getB p (o + 5)),
    extFlags := some (get16 p (o + 6)), maxPayload := get16 p (o + 2) }

theorem parseOpt_ok_iff {p : Bytes} {s s' : Sector} :
    parseOpt p s = .ok s' ↔
      s.ednsEnd.isSome = false ∧ s.offset + 10 + get16 p (s.offset + 8) ≤ p.length ∧
      ∃ n, OptionsTile p (s.offset + 10) (s.offset + 10 + get16 p (s.offset + 8)) n ∧
        s' = { optState p s.offset with offset := s.offset + 10 + get16 p (s.offset + 8), ednsCount := n } := by
  unfold parseOpt
  consts
  simp only [failIf_bind_ok, u8Load_bind_ok, be16Load_bind_ok, incrementOffset_bind_ok, ensureRemainingLen_bind_ok]
  have hl : ∀ h : s.offset + 10 + get16 p (s.offset + 8) ≤ p.length, _ :=
    fun h => optLoop_ok_iff (p := p) (s := optState p s.offset) (s' := s') (fuel := get16 p (s.offset + 8) / 4 + 2)
      rfl (Nat.le_add_right _ _) h (by simp only [optState]; omega)
  constructor
  · rintro ⟨h0, _, _, _, _, _, _, hfit, h⟩
    obtain ⟨n, ht, e⟩ := (hl hfit).1 h
    exact ⟨h0, hfit, n, ht, by simp only [e, optState, Nat.zero_add]⟩
  · rintro ⟨h0, hfit, n, ht, e⟩
    refine ⟨h0, by omega, by omega, by omega, by omega, by omega, by omega, hfit, (hl hfit).2 ⟨n, ht, by simp only [e, optState, Nat.zero_add]⟩⟩

/-- NS, CNAME, PTR, MX, DNAME; `C` and `P` say in the words of the policy what `c` and `chk` test -/
theorem nameRdata_ok_iff {p : Bytes} {s1 s' : Sector} {c : Bool} {C : Prop} {chk : Bytes → Nat → Res Nat}
    {P : Nat → Nat → Prop} (l pre : Nat) (hc : c = false ↔ C) (hP : ∀ o e, chk p o = .ok e ↔ P o e)
    (hgt : ∀ o e, chk p o = .ok e → o < e) :
    (do
      failIf c .packetTooSmall
      let (s, _) ← incrementOffset p s1 10
      let fin ← chk p (s.offset + pre)
      let d ← sub fin s.offset
      failIf (d != l) .invalidPacket
      let (s, _) ← incrementOffset p s l
      pure s) = .ok s' ↔
    s1.offset + 10 + l ≤ p.length ∧ (C ∧ P (s1.offset + 10 + pre) (s1.offset + 10 + l)) ∧
      s' = { s1 with offset := s1.offset + 10 + l } := by
  simp only [failIf_bind_ok, incrementOffset_bind_ok, bind_eq_ok (x := chk _ _), sub_bind_ok, pure_eq, ok.injEq,
    bne_eq_false_iff_eq, hc, ← hP]
  constructor
  · rintro ⟨hc, _, fin, hfin, hle, rfl, hfit, rfl⟩
    exact ⟨hfit, ⟨hc, by rw [hfin, Nat.add_sub_cancel' hle]⟩, rfl⟩
  · rintro ⟨hfit, ⟨hc, hfin⟩, rfl⟩
    have := hgt _ _ hfin
    exact ⟨hc, by omega, _, hfin, by omega, by omega, hfit, rfl⟩

theorem soaRdata_ok_iff {p : Bytes} {s1 s' : Sector} (l : Nat) :
    (do
      failIf (decide (l ≤ 1 + 20)) .packetTooSmall
      let (s, _) ← incrementOffset p s1 10
      let fin1 ← checkCompressedName p s.offset
      let fin2 ← checkCompressedName p fin1
      let d ← sub fin2 s.offset
      let e ← sub l 20
      failIf (d != e) .invalidPacket
      let (s, _) ← incrementOffset p s l
      pure s) = .ok s' ↔
    s1.offset + 10 + l ≤ p.length ∧
      (21 < l ∧ ∃ e1 e2, NameEnds p (s1.offset + 10) e1 ∧ NameEnds p e1 e2 ∧ e2 + 20 = s1.offset + 10 + l) ∧
      s' = { s1 with offset := s1.offset + 10 + l } := by
  simp only [failIf_bind_ok, incrementOffset_bind_ok, bind_eq_ok (x := checkCompressedName _ _), sub_bind_ok,
    pure_eq, ok.injEq, bne_eq_false_iff_eq, decide_eq_false_iff_not, ← nameEnds_iff]
  constructor
  · rintro ⟨hc, _, e1, h1, e2, h2, hle, _, hd, hfit, rfl⟩
    exact ⟨hfit, ⟨by omega, e1, e2, h1, h2, by omega⟩, rfl⟩
  · rintro ⟨hfit, ⟨hc, e1, e2, h1, h2, he⟩, rfl⟩
    have := checkCompressedName_ok_gt h1
    have := checkCompressedName_ok_gt h2
    exact ⟨by omega, by omega, e1, h1, e2, h2, by omega, by omega, by omega, hfit, rfl⟩

/-- A and AAAA, of the one length `c` lets through; any other type with `c := false` -/
theorem flatRdata_ok_iff {p : Bytes} {s1 s' : Sector} {c : Bool} {C : Prop} (l : Nat) (hc : c = false ↔ C) :
    (do
      failIf c .invalidPacket
      let (s, _) ← incrementOffset p s1 (10 + l)
      pure s) = .ok s' ↔
    s1.offset + 10 + l ≤ p.length ∧ C ∧ s' = { s1 with offset := s1.offset + 10 + l } := by
  simp only [failIf_bind_ok, incrementOffset_bind_ok, pure_eq, ok.injEq, ← Nat.add_assoc, eq_comm (a := s'), hc]
  exact and_left_comm

theorem parseRR_ok_iff {p : Bytes} {s s' : Sector} {sec : Section} :
    parseRR p s sec = .ok s' ↔ ∃ ne, NameEnds p s.offset ne ∧ ne + 10 ≤ p.length ∧
      ne + 10 + get16 p (ne + 8) ≤ p.length ∧
      if get16 p ne = 41 then
        sec = .additional ∧ ne = s.offset + 1 ∧ s.ednsEnd.isSome = false ∧
          ∃ n, OptionsTile p (ne + 10) (ne + 10 + get16 p (ne + 8)) n ∧
            s' = { optState p ne with offset := ne + 10 + get16 p (ne + 8), ednsCount := n }
      else RDataOK p (get16 p ne) (get16 p (ne + 8)) (ne + 10) ∧ s' = { s with offset := ne + 10 + get16 p (ne + 8) } := by
  unfold parseRR
  simp only [skipName_bind_ok, rrType, rrRdlen, be16Load_bind_ok, nameEnds_iff, DNS_RR_TYPE_OFFSET,
    DNS_RR_RDLEN_OFFSET, DNS_RR_HEADER_SIZE, TYPE_OPT, TYPE_NS, TYPE_CNAME, TYPE_PTR, TYPE_MX, TYPE_SOA, TYPE_DNAME,
    TYPE_A, TYPE_AAAA, Nat.add_zero]
  refine exists_congr fun ne => and_congr_right fun hn => ?_
  rw [← and_assoc, ← and_assoc]
  refine and_congr (by omega) ?_
  have hgt := fun o e (h : checkCompressedName p o = .ok e) => checkCompressedName_ok_gt h
  by_cases t : get16 p ne = 41
  · simp only [t, beq_self_eq_true, if_true, failIf_bind_ok, sub_bind_ok, parseOpt_ok_iff, bne_eq_false_iff_eq]
    have := hn.lt
    constructor
    · rintro ⟨hsec, hle, hd, h0, hfit, n, ht, rfl⟩; exact ⟨hfit, hsec, by omega, h0, n, ht, rfl⟩
    · rintro ⟨hfit, hsec, hne, h0, n, ht, rfl⟩; exact ⟨hsec, by omega, by omega, h0, hfit, n, ht, rfl⟩
  · simp only [t, beq_false_of_ne t, if_false, Bool.false_eq_true, RDataOK, Bool.or_eq_true, beq_iff_eq, or_assoc]
    exact ite_ok_iff (nameRdata_ok_iff _ 0 (by simp) (nameEnds_iff p) hgt) <|
      ite_ok_iff (nameRdata_ok_iff _ 2 (by simp) (nameEnds_iff p) hgt) <|
      ite_ok_iff (soaRdata_ok_iff _) <|
      ite_ok_iff (nameRdata_ok_iff _ 0 (by simp) (checkUncompressedName_ok_iff p) (fun _ _ => checkUncompressedName_ok_gt)) <|
      ite_ok_iff (flatRdata_ok_iff _ (by simp)) <|
      ite_ok_iff (flatRdata_ok_iff _ (by simp)) (flatRdata_ok_iff (c := false) _ (by simp))

theorem parseRR_sound {p : Bytes} {s s' : Sector} {sec : Section}
    (h : parseRR p s sec = .ok s') :
    RRAt p sec s.offset s.ednsEnd.isSome s'.offset s'.ednsEnd.isSome := by
  obtain ⟨ne, hn, h10, hfit, h⟩ := parseRR_ok_iff.1 h
  refine ⟨ne, hn, h10, ?_⟩
  by_cases t : get16 p ne = 41
  · rw [if_pos t] at h
    obtain ⟨hsec, hne, h0, n, ht, rfl⟩ := h
    exact ⟨rfl, hfit, (if_pos t).mpr ⟨hsec, hne, h0, rfl, n, ht⟩⟩
  · rw [if_neg t] at h
    obtain ⟨hd, rfl⟩ := h
    exact ⟨rfl, hfit, (if_neg t).mpr ⟨hd, rfl⟩⟩

theorem parseRR_complete {p : Bytes} {s : Sector} {sec : Section} {ob oa : Bool} {next : Nat}
    (hr : RRAt p sec s.offset ob next oa) (hob : s.ednsEnd.isSome = ob) :
    ∃ s', parseRR p s sec = .ok s' ∧ s'.offset = next ∧ s'.ednsEnd.isSome = oa := by
  obtain ⟨ne, hne, h10, rfl, hfit, hbody⟩ := hr
  simp only [parseRR_ok_iff]
  by_cases t : get16 p ne = 41
  · rw [if_pos t] at hbody
    obtain ⟨hsec, hroot, rfl, rfl, n, htile⟩ := hbody
    exact ⟨_, ⟨ne, hne, h10, hfit, (if_pos t).mpr ⟨hsec, hroot, hob, n, htile, rfl⟩⟩, rfl, rfl⟩
  · rw [if_neg t] at hbody
    obtain ⟨hrd, rfl⟩ := hbody
    exact ⟨{ s with offset := ne + 10 + get16 p (ne + 8) }, ⟨ne, hne, h10, hfit, (if_neg t).mpr ⟨hrd, rfl⟩⟩, rfl, hob⟩

theorem parseRRs_sound {p : Bytes} {sec : Section} (n : Nat) {s s' : Sector}
    (h : parseRRs p sec n s = .ok s') :
    RRs p sec n s.offset s.ednsEnd.isSome s'.offset s'.ednsEnd.isSome := by
  induction n generalizing s with
  | zero => cases h; exact RRs.nil _ _
  | succ k ih =>
    obtain ⟨s1, h1, h2⟩ := bind_eq_ok.1 h
    exact RRs.cons (parseRR_sound h1) (ih h2)

theorem parseRRs_complete {p : Bytes} {sec : Section} {n off e : Nat} {ob oe : Bool}
    (hr : RRs p sec n off ob e oe) :
    ∀ s : Sector, s.offset = off → s.ednsEnd.isSome = ob →
      ∃ s', parseRRs p sec n s = .ok s' ∧ s'.offset = e ∧ s'.ednsEnd.isSome = oe := by
  induction hr with
  | nil off o => intro s ho hb; exact ⟨s, rfl, ho, hb⟩
  | cons hrr _ ih =>
    rintro s rfl hb
    obtain ⟨s1, h1, h2, h3⟩ := parseRR_complete hrr hb
    obtain ⟨s', g1, g2, g3⟩ := ih s1 h2 h3
    exact ⟨s', bind_eq_ok.2 ⟨s1, h1, g1⟩, g2, g3⟩

theorem parseQuestion_ok_iff {p : Bytes} {s s' : Sector} :
    parseQuestion p s = .ok s' ↔
      ∃ qe, NameEnds p s.offset qe ∧ qe + 4 ≤ p.length ∧ get16 p (qe + 2) = 1 ∧ s' = { s with offset := qe + 4 } := by
  unfold parseQuestion ensureInClass rrClass
  simp only [skipName_bind_ok, Res.bind_assoc, be16Load_bind_ok, failIf_bind_ok, incrementOffset_bind_ok, pure_eq,
    ok.injEq, bne_eq_false_iff_eq, nameEnds_iff, DNS_RR_CLASS_OFFSET, CLASS_IN, DNS_RR_QUESTION_HEADER_SIZE]
  refine exists_congr fun qe => and_congr_right fun _ => ?_
  constructor
  · rintro ⟨_, _, hc, _, _, h4, rfl⟩; exact ⟨h4, hc, rfl⟩
  · rintro ⟨h4, hc, rfl⟩; exact ⟨by omega, by omega, hc, by omega, hc, h4, rfl⟩

/-- the response bit as `WF` reads it -/
theorem isResponse_iff (f : Nat) : (f &&& DNS_FLAG_QR == DNS_FLAG_QR) = !decide (f / 32768 % 2 = 0) := by
  have : DNS_FLAG_QR = 2 ^ 15 := rfl
  rw [this, and_two_pow_beq, Nat.testBit_eq_decide_div_mod_eq]
  have : f / 2 ^ 15 % 2 < 2 := Nat.mod_lt _ (by decide)
  by_cases h : f / 2 ^ 15 % 2 = 0
  · simp [h]
  · simp [h]; omega

theorem parse_ok_iff {p : Bytes} {v : View} :
    parse p = .ok v ↔ 12 ≤ p.length ∧ get16 p 4 = 1 ∧ ∃ s2 s3 s4 s5,
      parseQuestion p { offset := 12 } = .ok s2 ∧
      (get16 p 2 / 32768 % 2 = 0 → get16 p 6 = 0 ∧ get16 p 8 = 0) ∧
      parseRRs p .answer (get16 p 6) s2 = .ok s3 ∧ parseRRs p .nameServers (get16 p 8) s3 = .ok s4 ∧
      parseRRs p .additional (get16 p 10) s4 = .ok s5 ∧ s5.offset = p.length ∧
      v = { offsetQuestion := some 12,
            offsetAnswers := if get16 p 6 > 0 then some s2.offset else none,
            offsetNameservers := if get16 p 8 > 0 then some s3.offset else none,
            offsetAdditional := if get16 p 10 > 0 then some s4.offset else none,
            offsetEdns := s5.ednsStart, ednsCount := s5.ednsCount, extRcode := s5.extRcode,
            ednsVersion := s5.ednsVersion, extFlags := s5.extFlags, maxPayload := s5.maxPayload } := by
  unfold parse
  by_cases h12 : 12 ≤ p.length
  · -- with twelve bytes there, the header reads succeed: their bounds drop out of the conjunction
    simp only [failIf_bind_ok, be16_bind_ok, setOffset_bind_ok, bind_eq_ok (x := parseQuestion _ _),
      bind_eq_ok (x := parseRRs _ _ _ _), remainingLen, sub_bind_ok, pure_eq, ok.injEq, isResponse_iff,
      DNS_HEADER_SIZE, DNS_FLAGS_OFFSET, DNS_QUESTION_OFFSET, Sector.new, decide_eq_false_iff_not,
      beq_eq_false_iff_ne, Bool.and_eq_false_imp, Bool.not_not, decide_eq_true_eq, eq_comm (b := v),
      Nat.not_lt.2 h12, (by omega : 2 + 2 ≤ p.length), (by omega : 4 + 2 ≤ p.length), (by omega : 6 + 2 ≤ p.length),
      (by omega : 8 + 2 ≤ p.length), (by omega : 10 + 2 ≤ p.length), not_false_eq_true, true_and]
    constructor
    · rintro ⟨q0, q1, -, s2, hq, g1, s3, ha, g2, s4, hn, s5, hr, hle, hrem, rfl⟩
      exact ⟨by omega, s2, s3, s4, s5, hq, fun h => ⟨Nat.eq_zero_of_not_pos (g1 h), Nat.eq_zero_of_not_pos (g2 h)⟩,
        ha, hn, hr, by omega, rfl⟩
    · rintro ⟨hqd, s2, s3, s4, s5, hq, g, ha, hn, hr, hend, rfl⟩
      obtain ⟨qe, hqe, hq4, -⟩ := parseQuestion_ok_iff.1 hq
      have : 12 < qe := hqe.lt
      exact ⟨by omega, by omega, by omega, s2, hq, fun h => Nat.not_lt.2 (Nat.le_of_eq (g h).1), s3, ha,
        fun h => Nat.not_lt.2 (Nat.le_of_eq (g h).2), s4, hn, s5, hr, Nat.le_of_eq hend, by omega, rfl⟩
  · simp only [failIf_bind_ok, DNS_HEADER_SIZE, decide_eq_false_iff_not, Nat.not_lt, h12, false_and]

/-- C02, hub lemma H1 of DESIGN.md -/
theorem parse_ok_iff_wf (p : Bytes) : (∃ v, parse p = .ok v) ↔ WF p := by
  simp only [parse_ok_iff, WF]
  constructor
  · rintro ⟨v, hl, hqd, s2, s3, s4, s5, hq, hg, ha, hn, hr, hend, _⟩
    obtain ⟨qe, hqe, hq4, hcl, rfl⟩ := parseQuestion_ok_iff.1 hq
    exact ⟨hl, hqd, qe, hqe, hq4, hcl, hg, _, _, _, _, _, parseRRs_sound _ ha, parseRRs_sound _ hn,
      hend ▸ parseRRs_sound _ hr⟩
  · rintro ⟨hl, hqd, qe, hqe, hq4, hcl, hg, e2, o2, e3, o3, o4, ra, rn, rr⟩
    obtain ⟨s3, ha, ha2, ha3⟩ := parseRRs_complete ra { offset := qe + 4 } rfl rfl
    obtain ⟨s4, hn, hn2, hn3⟩ := parseRRs_complete rn s3 ha2 ha3
    obtain ⟨s5, hr, hr2, hr3⟩ := parseRRs_complete rr s4 hn2 hn3
    exact ⟨_, hl, hqd, _, s3, s4, s5, parseQuestion_ok_iff.2 ⟨qe, hqe, hq4, hcl, rfl⟩, hg, ha, hn, hr, hr2, rfl⟩

end Dns
