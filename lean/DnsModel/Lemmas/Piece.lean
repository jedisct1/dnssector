/-
  Record bytes described from the inside (owner labels, eight fixed bytes, data of a
  known shape): standing alone they are a record of the policy and their own canonical form
  (`canon_placed` then places them anywhere).
-/
import DnsModel.Lemmas.CanonRun
namespace Dns
open Res

/-- labels usable in a name: within the limits, no forbidden character -/
def GoodLabels (ls : List (List UInt8)) : Prop :=
  (∀ l ∈ ls, okLabel l) ∧ wireLen ls ≤ 255 ∧ (∀ l ∈ ls, goodChars l = true)

/-- pointer-free data described intrinsically (hence the `I`): by the labels it encodes, not by offsets into a packet -/
def RdPlainI (t : Nat) (rd : Bytes) : Prop :=
  if t = 2 ∨ t = 5 ∨ t = 12 then ∃ ls, GoodLabels ls ∧ rd = encLabels ls ++ [0]
  else if t = 15 then ∃ pref ls, pref.length = 2 ∧ GoodLabels ls ∧ rd = pref ++ (encLabels ls ++ [0])
  else if t = 6 then ∃ l1 l2 m, GoodLabels l1 ∧ GoodLabels l2 ∧ m.length = 20 ∧ rd = (encLabels l1 ++ [0]) ++ (encLabels l2 ++ [0]) ++ m
  else if t = 39 then rd ≠ [] ∧ PlainName rd 0 rd.length
  else if t = 1 then rd.length = 4
  else if t = 28 then rd.length = 16
  else True

theorem rd_placed_intrinsic {t : Nat} {rd : Bytes} (h : RdPlainI t rd) {u A B : Bytes} (hu : u = A ++ rd ++ B) :
    RDataOK u t rd.length A.length ∧ RdCanon u t rd.length A.length rd := by
  rcases rdClass t with ht | rfl | rfl | ⟨h1, h2, h3⟩
  · rw [RdPlainI, if_pos ht] at h
    obtain ⟨ls, ⟨hok, hw, hg⟩, rfl⟩ := h
    have hv := validName_at hu hok hw hg
    rw [RDataOK.name_iff ht, RdCanon.name_iff ht, encLen_eq, ← Nat.add_assoc]
    exact ⟨⟨Nat.succ_ne_zero _, ls, hv⟩, ls, hv, rfl⟩
  · rw [RdPlainI, if_neg (by decide), if_pos rfl] at h
    obtain ⟨pref, ls, hp2, ⟨hok, hw, hg⟩, rfl⟩ := h
    have hv := validName_at (u := u) (A := A ++ pref) (B := B) (by rw [hu]; simp only [List.append_assoc]) hok hw hg
    have hwin := window_eq (u := u) (A := A) (w := pref) (B := (encLabels ls ++ [0]) ++ B) (by rw [hu]; simp only [List.append_assoc])
    rw [List.length_append, hp2] at hv
    rw [hp2] at hwin
    rw [RDataOK.mx_iff, RdCanon.mx_iff, hwin, List.length_append, hp2, encLen_eq, ← Nat.add_assoc, ← Nat.add_assoc, ← Nat.add_assoc]
    exact ⟨⟨by omega, ls, hv⟩, ls, hv, rfl⟩
  · rw [RdPlainI, if_neg (by decide), if_neg (by decide), if_pos rfl] at h
    obtain ⟨l1, l2, m, ⟨hok1, hw1, hg1⟩, ⟨hok2, hw2, hg2⟩, hm, rfl⟩ := h
    have hv1 := validName_at (u := u) (A := A) (B := (encLabels l2 ++ [0]) ++ m ++ B) (by rw [hu]; simp only [List.append_assoc])
      hok1 hw1 hg1
    have hv2 := validName_at (u := u) (A := A ++ (encLabels l1 ++ [0])) (B := m ++ B) (by rw [hu]; simp only [List.append_assoc])
      hok2 hw2 hg2
    have hwin := window_eq (u := u) (A := A ++ (encLabels l1 ++ [0]) ++ (encLabels l2 ++ [0])) (w := m) (B := B)
      (by rw [hu]; simp only [List.append_assoc])
    rw [List.length_append, encLen_eq] at hv2
    rw [hm, List.length_append, List.length_append, encLen_eq, encLen_eq] at hwin
    simp only [← Nat.add_assoc] at hv2 hwin
    rw [RDataOK.soa_iff, RdCanon.soa_iff, List.length_append, List.length_append, hm, encLen_eq, encLen_eq,
      show A.length + (labSum l1 + 1 + (labSum l2 + 1) + 20) - 20 = A.length + labSum l1 + 1 + labSum l2 + 1 by omega, hwin]
    exact ⟨⟨by omega, _, _, ⟨l1, hv1⟩, ⟨l2, hv2⟩, by omega⟩, l1, l2, _, hv1, hv2, rfl⟩
  · rw [RdPlainI, if_neg h1, if_neg h2, if_neg h3] at h
    rw [RDataOK.verbatim_iff h1 h2 h3, RdCanon.verbatim_iff h1 h2 h3]
    refine ⟨?_, (window_eq hu).symm⟩
    by_cases hdn : t = 39
    · rw [if_pos hdn] at h ⊢
      have hag : Agree rd u 0 A.length rd.length := agree_of_eq (B := B) (by simpa using hu) (by omega)
      have := h.2.translate (u := u) (a' := A.length) (by simpa using hag)
      exact ⟨fun h0 => h.1 (List.length_eq_zero_iff.1 h0), by simpa using this⟩
    · rwa [if_neg hdn] at h ⊢

theorem piece_standalone (owner : List (List UInt8)) (ho : GoodLabels owner) (f8 rd : Bytes) (hf8 : f8.length = 8)
    (hlt : rd.length < 65536) (h41 : get16 f8 0 ≠ 41) (hrd : RdPlainI (get16 f8 0) rd) (sec : Section) (b : Bool) :
    let rc := (encLabels owner ++ [0]) ++ f8 ++ put16 rd.length ++ rd
    RRAtPos rc sec ⟨0, labSum owner + 1, rc.length⟩ b b ∧ RecCanon rc ⟨0, labSum owner + 1, rc.length⟩ rc ∧
      get16 rc (labSum owner + 1) = get16 f8 0 := by
  intro rc
  obtain ⟨hok, hw, hg⟩ := ho
  -- `rc` split around the owner (`e1`), the eight fixed bytes (`e2`), the length word (`e3`), the data (`e4`)
  have e1 : rc = [] ++ (encLabels owner ++ [0]) ++ (f8 ++ put16 rd.length ++ rd) := by simp [rc]
  have e2 : rc = (encLabels owner ++ [0]) ++ f8 ++ (put16 rd.length ++ rd) := by simp [rc]
  have e3 : rc = ((encLabels owner ++ [0]) ++ f8) ++ put16 rd.length ++ (rd ++ []) := by simp [rc]
  have e4 : rc = ((encLabels owner ++ [0]) ++ f8 ++ put16 rd.length) ++ rd ++ [] := by simp [rc]
  have hA2 : ((encLabels owner ++ [0]) ++ f8).length = labSum owner + 1 + 8 := by rw [List.length_append, encLen_eq, hf8]
  have hA3 : ((encLabels owner ++ [0]) ++ f8 ++ put16 rd.length).length = labSum owner + 1 + 10 := by
    rw [List.length_append, hA2]; simp [put16]
  have hrclen : rc.length = labSum owner + 1 + 10 + rd.length := by rw [e4]; simp only [List.length_append, hA3]; simp
  have hvo : ValidName rc 0 owner (labSum owner + 1) := by
    have := validName_at (u := rc) (A := []) e1 hok hw hg
    simpa using this
  have hwin8 : (rc.drop (labSum owner + 1)).take 8 = f8 := by
    have := window_eq e2
    rw [encLen_eq, hf8] at this; exact this
  have hty : get16 rc (labSum owner + 1) = get16 f8 0 := by
    have hag : Agree f8 rc 0 (labSum owner + 1) 8 := by
      intro i hi
      rw [e2, List.append_assoc, List.getElem?_append_right (by rw [encLen_eq]; omega)]
      have : labSum owner + 1 + i - (encLabels owner ++ [0]).length = i := by rw [encLen_eq]; omega
      rw [this, List.getElem?_append_left (by omega)]
      simp
    have := hag.get16 (i := 0) (by omega)
    simpa using this
  have hl' : get16 rc (labSum owner + 1 + 8) = rd.length := by
    have := get16_put16_at e3 hlt
    rw [hA2] at this; exact this
  obtain ⟨hb1, hb2⟩ := rd_placed_intrinsic hrd e4
  rw [hA3] at hb1 hb2
  refine ⟨⟨⟨owner, hvo⟩, by simp only; omega, by simp only; rw [hl']; omega, by simp only; omega, ?_⟩,
    ⟨owner, rd, hvo, ?_, ?_⟩, hty⟩
  · simp only
    rw [hty, hl']
    simp only [h41, if_false]
    exact ⟨hb1, trivial⟩
  · simp only
    rw [hty, hl']; exact hb2
  · simp only
    rw [hwin8]

end Dns
