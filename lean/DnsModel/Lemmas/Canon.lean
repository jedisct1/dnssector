/-
  Copying bytes keeps what the policy says about them: labels, pointer-free names and EDNS options read the same in
  a buffer that holds the same bytes elsewhere; the canonical form of a record is a record of the policy wherever
  it is placed.
-/
import DnsModel.Lemmas.Uncompress
import DnsModel.Lemmas.Question
namespace Dns
open Res

/-- `u` holds at `a'` the `n` bytes `p` holds at `a` -/
def Agree (p u : Bytes) (a a' n : Nat) : Prop := ∀ i, i < n → u[a' + i]? = p[a + i]?

theorem Agree.byteAt {p u : Bytes} {a a' n : Nat} (h : Agree p u a a' n) {i : Nat} (hi : i < n) :
    byteAt u (a' + i) = byteAt p (a + i) := by
  unfold Dns.byteAt
  rw [h i hi]

theorem Agree.get16 {p u : Bytes} {a a' n : Nat} (h : Agree p u a a' n) {i : Nat} (hi : i + 2 ≤ n) :
    get16 u (a' + i) = get16 p (a + i) := by
  unfold Dns.get16 getB
  rw [h.byteAt (Nat.lt_of_succ_lt hi), Nat.add_assoc, Nat.add_assoc, h.byteAt hi]

theorem Agree.mono {p u : Bytes} {a a' n m : Nat} (h : Agree p u a a' n) (hm : m ≤ n) : Agree p u a a' m :=
  fun i hi => h i (Nat.lt_of_lt_of_le hi hm)

theorem Agree.drop {p u : Bytes} {a a' k m : Nat} (h : Agree p u a a' (k + m)) : Agree p u (a + k) (a' + k) m := by
  intro i hi
  rw [Nat.add_assoc, Nat.add_assoc]
  exact h (k + i) (Nat.add_lt_add_left hi k)

theorem Agree.shift {p u : Bytes} {a a' n : Nat} (h : Agree p u a a' n) (k : Nat) (hk : k ≤ n) :
    Agree p u (a + k) (a' + k) (n - k) :=
  Agree.drop ((Nat.add_sub_cancel' hk).symm ▸ h)

theorem Agree.lab {p u : Bytes} {a a' n : Nat} (h : Agree p u a a' n) {len : Nat} (hl : len + 1 ≤ n) :
    lab u a' len = lab p a len := by
  unfold Dns.lab
  apply List.ext_getElem?
  intro i
  rw [List.getElem?_take, List.getElem?_take, List.getElem?_drop, List.getElem?_drop]
  split
  next hi => rw [Nat.add_assoc, Nat.add_assoc]; exact h (1 + i) (by omega)
  next => rfl

theorem agree_window (p : Bytes) (a n : Nat) : Agree p ((p.drop a).take n) a 0 n := fun i hi => by
  rw [Nat.zero_add, List.getElem?_take_of_lt hi, List.getElem?_drop]

theorem getB_of_agree {p u : Bytes} {a a' n : Nat} (h : Agree p u a a' n) {i : Nat} (hi : i < n) : getB u (a' + i) = getB p (a + i) := by
  unfold getB; rw [h.byteAt hi]

theorem agree_of_window_eq {p u : Bytes} {a a' n : Nat} (h : (p.drop a).take n = (u.drop a').take n) : Agree p u a a' n :=
  fun i hi => by
    have h1 := agree_window p a n i hi
    have h2 := agree_window u a' n i hi
    rw [← h2, ← h, h1]

theorem Agree.length_le {p u : Bytes} {a a' n : Nat} (h : Agree p u a a' n) (hp : a + n ≤ p.length) (hn : 0 < n) :
    a' + n ≤ u.length := by
  obtain ⟨k, rfl⟩ := Nat.exists_eq_succ_of_ne_zero (Nat.ne_of_gt hn)
  have := h k (Nat.lt_succ_self k)
  rw [List.getElem?_eq_getElem (by omega : a + k < p.length)] at this
  exact (List.getElem?_eq_some_iff.1 this).1

theorem Labels.translate {p : Bytes} {bar a stop : Nat} {ls : List (List UInt8)} (hl : Labels p bar a ls stop) :
    ∀ (u : Bytes) (a' bar' : Nat), Agree p u a a' (stop - a) → a' + (stop - a) ≤ bar' → a' + (stop - a) ≤ u.length →
      Labels u bar' a' ls (a' + (stop - a)) := by
  induction hl with
  | nil off => intro u a' bar' _ _ _; rw [Nat.sub_self]; exact Labels.nil _
  | @cons off len rest stop h1 h2 h3 h4 h5 hrest ih =>
    intro u a' bar' hag hbar hu
    -- the rest of the run has some length `m`: all offsets become sums
    obtain ⟨m, rfl⟩ := Nat.exists_eq_add_of_le hrest.le
    rw [Nat.add_sub_cancel_left] at ih
    rw [Nat.add_assoc off, Nat.add_assoc off, Nat.add_sub_cancel_left] at hag hbar hu ⊢
    have hb : byteAt u a' = some len := (hag.byteAt (i := 0) (Nat.add_pos_left (Nat.succ_pos len) m)).trans h2
    have hlab : lab u a' len = lab p off len := hag.lab (Nat.le_add_right _ m)
    rw [← Nat.add_assoc, ← Nat.add_assoc, ← hlab]
    exact Labels.cons (by omega) hb h3 h4 (by omega) (ih u (a' + len + 1) bar' hag.drop (by omega) (by omega))

theorem PlainName.translate {p u : Bytes} {a e a' : Nat} (h : PlainName p a e) (hag : Agree p u a a' (e - a))
    : PlainName u a' (a' + (e - a)) := by
  obtain ⟨ls, stop, hl, hs, hb, rfl, hw⟩ := h
  obtain ⟨m, rfl⟩ := Nat.exists_eq_add_of_le hl.le
  rw [Nat.add_assoc, Nat.add_sub_cancel_left] at hag ⊢
  have hu := hag.length_le (by omega) (Nat.succ_pos m)
  have hl' := hl.translate u a' u.length
  rw [Nat.add_sub_cancel_left] at hl'
  exact ⟨ls, a' + m, hl' (hag.mono (Nat.le_succ m)) (by omega) (by omega), by omega,
    (hag.byteAt (Nat.lt_succ_self m)).trans hb, rfl, hw⟩

theorem OptionsTile.translate {p : Bytes} {a b n : Nat} (h : OptionsTile p a b n) :
    ∀ (u : Bytes) (a' : Nat), Agree p u a a' (b - a) → OptionsTile u a' (a' + (b - a)) n := by
  induction h with
  | done a => intro u a' _; rw [Nat.sub_self]; exact OptionsTile.done _
  | @opt a b n hfit hrest ih =>
    intro u a' hag
    obtain ⟨m, rfl⟩ := Nat.exists_eq_add_of_le hfit
    rw [Nat.add_sub_cancel_left] at ih
    rw [Nat.add_assoc a, Nat.add_assoc a, Nat.add_sub_cancel_left] at hag ⊢
    have hg : get16 u (a' + 2) = get16 p (a + 2) := hag.get16 (by omega)
    have hrest' := hag.drop (k := 4 + get16 p (a + 2))
    rw [← Nat.add_assoc, ← Nat.add_assoc] at hrest' ⊢
    refine OptionsTile.opt (by rw [hg]; exact Nat.le_add_right _ m) ?_
    rw [hg]
    exact ih u _ hrest'

theorem agree_of_eq {p u A B : Bytes} {a n : Nat} (h : u = A ++ (p.drop a).take n ++ B) (hfit : a + n ≤ p.length) :
    Agree p u a A.length n := by
  subst h
  intro i hi
  rw [List.append_assoc, List.getElem?_append_right (Nat.le_add_right _ i), Nat.add_sub_cancel_left,
    List.getElem?_append_left (by rw [length_take_drop hfit]; exact hi), List.getElem?_take_of_lt hi, List.getElem?_drop]

theorem okLabel.toNat_length {l : List UInt8} (h : okLabel l) : (UInt8.ofNat l.length).toNat = l.length := by
  rw [UInt8.toNat_ofNat']
  exact Nat.mod_eq_of_lt (Nat.lt_of_le_of_lt h.2 (by decide))

theorem encLabels_inj {a b : List (List UInt8)} (ha : ∀ l ∈ a, okLabel l) (hb : ∀ l ∈ b, okLabel l)
    (ta tb : Bytes) (h : encLabels a ++ 0 :: ta = encLabels b ++ 0 :: tb) : a = b := by
  induction a generalizing b with
  | nil =>
    cases b with
    | nil => rfl
    | cons l b =>
      -- a length byte is not the root byte
      have hl := hb l List.mem_cons_self
      have := congrArg UInt8.toNat (List.cons.inj h).1
      rw [hl.toNat_length] at this
      exact absurd this.symm (Nat.ne_of_gt hl.1)
  | cons l a ih =>
    have hl := ha l List.mem_cons_self
    cases b with
    | nil =>
      have := congrArg UInt8.toNat (List.cons.inj h).1
      rw [hl.toNat_length] at this
      exact absurd this (Nat.ne_of_gt hl.1)
    | cons l' b =>
      have hl' := hb l' List.mem_cons_self
      have hlen := congrArg UInt8.toNat (List.cons.inj h).1
      rw [hl.toNat_length, hl'.toNat_length] at hlen
      have ht : l ++ encLabels a ++ 0 :: ta = l' ++ encLabels b ++ 0 :: tb := (List.cons.inj h).2
      rw [List.append_assoc, List.append_assoc] at ht
      obtain ⟨rfl, hrest⟩ := List.append_inj ht hlen
      rw [ih (fun x hx => ha x (List.mem_cons_of_mem _ hx)) (fun x hx => hb x (List.mem_cons_of_mem _ hx)) hrest]

theorem validName_functional {p : Bytes} {off e e' : Nat} {ls ls' : List (List UInt8)}
    (h1 : ValidName p off ls e) (h2 : ValidName p off ls' e') : ls = ls' ∧ e = e' := by
  have g := (copyUncompressedName_valid h1).symm.trans (copyUncompressedName_valid h2)
  obtain ⟨g1, g2⟩ := Prod.mk.inj (Res.ok.inj g)
  exact ⟨encLabels_inj h1.2.1.okLabels h2.2.1.okLabels [] [] g1, g2⟩

theorem validName_ok {p : Bytes} {off e : Nat} {ls : List (List UInt8)} (h : ValidName p off ls e) :
    (∀ l ∈ ls, okLabel l) ∧ wireLen ls ≤ 255 ∧ (∀ l ∈ ls, goodChars l = true) :=
  ⟨h.2.1.okLabels, h.2.2.1, h.2.2.2⟩

theorem encLen_eq (ls : List (List UInt8)) : (encLabels ls ++ [0]).length = labSum ls + 1 := by
  rw [List.length_append, encLabels_length]
  rfl

theorem ValidName.placed {p : Bytes} {off e : Nat} {ls : List (List UInt8)} (hv : ValidName p off ls e) {u A B : Bytes}
    (hu : u = A ++ (encLabels ls ++ [0]) ++ B) : ValidName u A.length ls (A.length + (encLabels ls ++ [0]).length) := by
  rw [encLen_eq, ← Nat.add_assoc]
  exact validName_at hu hv.2.1.okLabels hv.2.2.1 hv.2.2.2

theorem rdcanon_placed {p : Bytes} {t l rs : Nat} {rd : Bytes} (hfit : rs + l ≤ p.length) (hl : l < 65536)
    (hbody : if t = 41 then ∃ n, OptionsTile p rs (rs + l) n else RDataOK p t l rs)
    (hrd : RdCanon p t l rs rd) {u A B : Bytes} (hu : u = A ++ rd ++ B) :
    rd.length < 65536 ∧
      (if t = 41 then ∃ n, OptionsTile u A.length (A.length + rd.length) n else RDataOK u t rd.length A.length) ∧
      RdCanon u t rd.length A.length rd := by
  rcases rdClass t with ht | rfl | rfl | ⟨h1, h2, h3⟩
  · obtain ⟨ls, hv, rfl⟩ := (RdCanon.name_iff ht).1 hrd
    have hv' := hv.placed hu
    have := encLen_le hv
    rw [if_neg (by omega), RDataOK.name_iff ht, RdCanon.name_iff ht]
    exact ⟨by omega, ⟨by rw [encLen_eq]; exact Nat.succ_ne_zero _, ls, hv'⟩, ls, hv', rfl⟩
  · obtain ⟨ls, hv, rfl⟩ := RdCanon.mx_iff.1 hrd
    rw [if_neg (by decide), RDataOK.mx_iff] at hbody ⊢
    have h2 : ((p.drop rs).take 2).length = 2 := length_take_drop (by omega)
    have hv' := hv.placed (u := u) (A := A ++ (p.drop rs).take 2) (B := B) (by rw [hu]; simp only [List.append_assoc])
    have hw := window_eq (u := u) (A := A) (w := (p.drop rs).take 2) (B := (encLabels ls ++ [0]) ++ B)
      (by rw [hu]; simp only [List.append_assoc])
    have := encLen_le hv
    rw [List.length_append, h2] at hv'
    rw [h2] at hw
    rw [RdCanon.mx_iff, hw, List.length_append, h2, ← Nat.add_assoc]
    exact ⟨by omega, ⟨by rw [encLen_eq]; omega, ls, hv'⟩, ls, hv', rfl⟩
  · obtain ⟨l1, l2, e1, hv1, hv2, rfl⟩ := RdCanon.soa_iff.1 hrd
    rw [if_neg (by decide), RDataOK.soa_iff] at hbody ⊢
    have h20 : ((p.drop (rs + l - 20)).take 20).length = 20 := length_take_drop (by omega)
    have hv1' := hv1.placed (u := u) (A := A) (B := (encLabels l2 ++ [0]) ++ (p.drop (rs + l - 20)).take 20 ++ B)
      (by rw [hu]; simp only [List.append_assoc])
    have hv2' := hv2.placed (u := u) (A := A ++ (encLabels l1 ++ [0])) (B := (p.drop (rs + l - 20)).take 20 ++ B)
      (by rw [hu]; simp only [List.append_assoc])
    have hw := window_eq (u := u) (A := A ++ (encLabels l1 ++ [0]) ++ (encLabels l2 ++ [0]))
      (w := (p.drop (rs + l - 20)).take 20) (B := B) (by rw [hu]; simp only [List.append_assoc])
    have h1 := encLen_le hv1
    have h2 := encLen_le hv2
    have h3 := encLen_eq l1
    have h4 := encLen_eq l2
    rw [List.length_append] at hv2'
    rw [h20, List.length_append, List.length_append] at hw
    rw [RdCanon.soa_iff, List.length_append, List.length_append, h20, ← Nat.add_assoc, Nat.add_sub_cancel,
      ← Nat.add_assoc, hw]
    exact ⟨by omega, ⟨by omega, _, _, ⟨l1, hv1'⟩, ⟨l2, hv2'⟩, rfl⟩, l1, l2, _, hv1', hv2', rfl⟩
  · obtain rfl := (RdCanon.verbatim_iff h1 h2 h3).1 hrd
    have hlen : ((p.drop rs).take l).length = l := length_take_drop hfit
    have hag : Agree p u rs A.length l := agree_of_eq hu hfit
    have hw := window_eq hu
    rw [hlen] at hw ⊢
    refine ⟨hl, ?_, (RdCanon.verbatim_iff h1 h2 h3).2 hw.symm⟩
    by_cases h41 : t = 41
    · rw [if_pos h41] at hbody ⊢
      obtain ⟨n, ht⟩ := hbody
      have := ht.translate u A.length
      rw [Nat.add_sub_cancel_left] at this
      exact ⟨n, this hag⟩
    rw [if_neg h41, RDataOK.verbatim_iff h1 h2 h3] at hbody ⊢
    by_cases h39 : t = 39
    · rw [if_pos h39] at hbody ⊢
      have := hbody.2.translate (u := u) (a' := A.length)
      rw [Nat.add_sub_cancel_left] at this
      exact ⟨hbody.1, this hag⟩
    · rwa [if_neg h39] at hbody ⊢

theorem owner_nil {p : Bytes} {off : Nat} {ls : List (List UInt8)} (h : ValidName p off ls (off + 1)) : ls = [] := by
  obtain ⟨_, hn, _, _⟩ := h
  generalize he : off + 1 = e at hn
  cases hn with
  | root hl _ _ =>
    cases hl with
    | nil => rfl
    | cons _ _ _ _ _ hrest => have := hrest.le; omega
  | ptr hl _ _ _ _ _ _ _ _ => have := hl.le; omega

theorem canon_placed {p : Bytes} {sec : Section} {r : RecPos} {ob oa : Bool} (hr : RRAtPos p sec r ob oa)
    {rc : Bytes} (hc : RecCanon p r rc) (pre post : Bytes) :
    ∃ ne', RRAtPos (pre ++ rc ++ post) sec ⟨pre.length, ne', pre.length + rc.length⟩ ob oa ∧
      RecCanon (pre ++ rc ++ post) ⟨pre.length, ne', pre.length + rc.length⟩ rc ∧
      get16 (pre ++ rc ++ post) ne' = get16 p r.ne := by
  obtain ⟨owner, rd, hvo, hrd, rfl⟩ := hc
  have hbody' := hr.body
  obtain ⟨_, h10, hnext, hfit, hbody⟩ := hr
  rw [hnext] at hfit hbody
  -- an OPT record has the root as its owner
  have hopt : get16 p r.ne = 41 → (encLabels owner ++ [0]).length = 1 := fun h41 => by
    rw [if_pos h41] at hbody
    have : owner = [] := owner_nil (hbody.2.1 ▸ hvo)
    rw [this]
    rfl
  have hf8 : ((p.drop r.ne).take 8).length = 8 := length_take_drop (Nat.le_trans (Nat.add_le_add_left (by decide) _) h10)
  -- the four parts of the record, each with what precedes it in `u`
  generalize hO : encLabels owner ++ [0] = O at hopt ⊢
  generalize hF : (p.drop r.ne).take 8 = f8 at hf8 ⊢
  generalize hu : pre ++ (O ++ f8 ++ put16 rd.length ++ rd) ++ post = u
  have e1 : u = pre ++ O ++ (f8 ++ put16 rd.length ++ rd ++ post) := by rw [← hu]; simp only [List.append_assoc]
  have e2 : u = (pre ++ O) ++ f8 ++ (put16 rd.length ++ rd ++ post) := by rw [← hu]; simp only [List.append_assoc]
  have e3 : u = (pre ++ O ++ f8) ++ put16 rd.length ++ (rd ++ post) := by rw [← hu]; simp only [List.append_assoc]
  have e4 : u = (pre ++ O ++ f8 ++ put16 rd.length) ++ rd ++ post := by rw [← hu]; simp only [List.append_assoc]
  have hvo' := hvo.placed (u := u) (A := pre) (hO ▸ e1)
  have hag := agree_of_eq (p := p) (a := r.ne) (n := 8) (hF ▸ e2) (Nat.le_trans (Nat.add_le_add_left (by decide) _) h10)
  have hw8 := window_eq e2
  obtain ⟨hlt, hb', hrd'⟩ := rdcanon_placed hfit (get16_lt p _) hbody' hrd e4
  have hl' := get16_put16_at e3 hlt
  have hulen := congrArg List.length e4
  have h2 : (put16 rd.length).length = 2 := rfl
  rw [hO] at hvo'
  rw [List.length_append, List.length_append, hf8] at hl'
  rw [List.length_append, List.length_append, List.length_append, List.length_append, List.length_append, hf8, h2] at hulen
  rw [List.length_append, List.length_append, List.length_append, hf8, h2] at hb' hrd'
  rw [hf8] at hw8
  rw [List.length_append] at hag hw8
  rw [List.length_append, List.length_append, List.length_append, hf8, h2, ← Nat.add_assoc, ← Nat.add_assoc,
    ← Nat.add_assoc]
  have hty : get16 u (pre.length + O.length) = get16 p r.ne := hag.get16 (i := 0) (Nat.le_add_left 2 6)
  refine ⟨pre.length + O.length, ⟨⟨owner, hvo'⟩, ?_, ?_, ?_, ?_⟩, ⟨owner, rd, hvo', ?_, ?_⟩, hty⟩ <;> dsimp only
  · omega
  · rw [hl']
  · omega
  · rw [hty, hl']
    by_cases h41 : get16 p r.ne = 41
    · rw [if_pos h41] at hbody hb' ⊢
      exact ⟨hbody.1, by rw [hopt h41], hbody.2.2.1, hbody.2.2.2.1, hb'⟩
    · rw [if_neg h41] at hbody hb' ⊢
      exact ⟨hb', hbody.2⟩
  · rw [hty, hl']
    exact hrd'
  · rw [hw8, hO]

end Dns
