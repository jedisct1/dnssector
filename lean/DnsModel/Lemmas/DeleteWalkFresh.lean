/-
  The walk-and-delete run started on an object that still has its parse-time flag.
  The invariant (`FreshSim`) has two phases: until the first deletion the object is untouched and the cursor walks
  the parsed packet's records, the list being their canonical pieces; the first deletion decompresses (`delete_fresh`)
  and from there the invariant is `PlainSim`.  Last part: the public `next()` over the additional section.
-/
import DnsModel.Lemmas.DeleteWalk
import DnsModel.Lemmas.FirstTouch
namespace Dns
open Res

/-- where the `j`-th record of a run starts (the end of the run past the last one) -/
def posOfIdx (l : List RecPos) (e : Nat) (j : Nat) : Nat := if h : j < l.length then l[j].off else e

theorem posOfIdx_cons (r : RecPos) (l : List RecPos) (e j : Nat) : posOfIdx (r :: l) e (j + 1) = posOfIdx l e j := by
  simp only [posOfIdx, List.length_cons, Nat.add_lt_add_iff_right, List.getElem_cons_succ]

theorem RRsL.at_idx {p : Bytes} {sec : Section} {l : List RecPos} {off e : Nat} {ob oe : Bool} (h : RRsL p sec l off ob e oe) :
    posOfIdx l e 0 = off ∧ ∀ j (hj : j < l.length), ∃ ob' oa', RRAtPos p sec l[j] ob' oa' ∧ l[j].next = posOfIdx l e (j + 1) := by
  induction h with
  | nil off o => exact ⟨rfl, fun j hj => nomatch hj⟩
  | @cons r l e ob om oe hr hrest ih =>
    refine ⟨rfl, fun j hj => ?_⟩
    cases j with
    | zero => exact ⟨ob, om, hr, ih.1.symm.trans (posOfIdx_cons r l e 0).symm⟩
    | succ j =>
      obtain ⟨ob', oa', h1, h2⟩ := ih.2 j (Nat.lt_of_succ_lt_succ hj)
      exact ⟨ob', oa', h1, h2.trans (posOfIdx_cons r l e (j + 1)).symm⟩

/-- `CurAt` for an object that still has its parse-time view -/
def CurAtFresh (l : List RecPos) (e : Nat) (sec : Section) (j : Nat) (c : Cursor) : Prop :=
  c.sec = sec ∧ ((c.offset = none ∧ j = 0) ∨
    (∃ o, c.offset = some o ∧ c.offsetNext = posOfIdx l e j ∧ c.rrsLeft = l.length - j ∧ j ≤ l.length))

/-- the cursor `next` leaves on record `j` of the run `l` of section `sec` -/
def cursorOn (sec : Section) (l : List RecPos) (j : Nat) (hj : j < l.length) : Cursor :=
  ⟨sec, some l[j].off, l[j].next, l[j].ne, l.length - j - 1⟩

def C03.Layout.startOf {p : Bytes} (L : C03.Layout p) : Section → Nat
  | .answer => L.qe + 4
  | .nameServers => L.e2
  | .additional => L.e3
  | _ => 0

def C03.Layout.endOf {p : Bytes} (L : C03.Layout p) : Section → Nat
  | .answer => L.e2
  | .nameServers => L.e3
  | .additional => p.length
  | _ => 0

theorem C03.Layout.run {p : Bytes} (L : C03.Layout p) (sec : Section) (hs : sec.isRec = true) :
    ∃ ob oe, RRsL p sec (L.recs sec) (L.startOf sec) ob (L.endOf sec) oe := by
  cases sec with
  | answer => exact ⟨_, _, L.ha⟩
  | nameServers => exact ⟨_, _, L.hn⟩
  | additional => exact ⟨_, _, L.hr⟩
  | question => cases hs
  | edns => cases hs

theorem C05.Output.canon {p : Bytes} {L : C03.Layout p} (o : C05.Output p L) (sec : Section) (hs : sec.isRec = true) :
    CanonRun p (L.recs sec) (o.pieces sec) := by
  cases sec with
  | answer => exact o.ha
  | nameServers => exact o.hn
  | additional => exact o.hr
  | question => cases hs
  | edns => cases hs

theorem fresh_secInfo {pp : PP} {p : Bytes} {v : View} (F : Fresh pp p v) (L : C03.Layout p) (sec : Section) (hs : sec.isRec = true) :
    secInfo pp sec = .ok ((L.recs sec).length, if (L.recs sec).length > 0 then some (L.startOf sec) else none) := by
  obtain ⟨L0, hl, v1, v2, v3, v4, _, _⟩ := C03.layout_full F.hp
  obtain ⟨eq, ea, en, er⟩ := C05.layout_unique L0 L
  have e2 : L0.e2 = L.e2 := by
    have := L0.ha; rw [eq, ea] at this
    exact (this.functional L.ha rfl).2
  have e3 : L0.e3 = L.e3 := by
    have := L0.hn; rw [e2, en] at this
    exact (this.functional L.hn rfl).2
  cases sec with
  | answer =>
    simp only [secInfo, C03.Layout.recs, C03.Layout.startOf, ancount, F.pk]
    rw [be16_ok (by omega), F.oa, v2, ea, eq, ← L.na]
    rfl
  | nameServers =>
    simp only [secInfo, C03.Layout.recs, C03.Layout.startOf, nscount, F.pk]
    rw [be16_ok (by omega), F.on, v3, en, e2, ← L.nn]
    rfl
  | additional =>
    simp only [secInfo, C03.Layout.recs, C03.Layout.startOf, arcount, F.pk]
    rw [be16_ok (by omega), F.oR, v4, er, e3, ← L.nr]
    rfl
  | question => cases hs
  | edns => cases hs

theorem fresh_next {pp : PP} {p : Bytes} {v : View} (F : Fresh pp p v) (L : C03.Layout p) (sec : Section) (hs : sec.isRec = true)
    (j : Nat) (c : Cursor) (h : CurAtFresh (L.recs sec) (L.endOf sec) sec j c) :
    (¬ j < (L.recs sec).length → nextIncludingOpt pp c = .ok none) ∧
    (∀ hj : j < (L.recs sec).length,
      nextIncludingOpt pp c = .ok (some (cursorOn sec (L.recs sec) j hj)) ∧
      ∃ ob oa, RRAtPos p sec (L.recs sec)[j] ob oa) := by
  obtain ⟨ob, oe, hrun⟩ := L.run sec hs
  obtain ⟨h0, hall⟩ := hrun.at_idx
  obtain ⟨hnone, hsome⟩ := next_before h.1 h.2 (fresh_secInfo F L sec hs) (fun hj0 => by rw [hj0]; exact h0)
  refine ⟨hnone, fun hj => ?_⟩
  obtain ⟨ob', oa', hr, _⟩ := hall j hj
  exact ⟨hsome hj (by rw [F.pk]; exact hr) (by rw [posOfIdx, dif_pos hj]), ob', oa', hr⟩

theorem C03.Layout.curAt_succ {p : Bytes} (L : C03.Layout p) (sec : Section) (hs : sec.isRec = true) {m : Nat}
    (hm : m < (L.recs sec).length) :
    CurAtFresh (L.recs sec) (L.endOf sec) sec (m + 1)
      (cursorOn sec (L.recs sec) m hm) := by
  obtain ⟨ob, oe, hrun⟩ := L.run sec hs
  obtain ⟨_, _, _, hnx⟩ := hrun.at_idx.2 m hm
  exact ⟨rfl, .inr ⟨_, rfl, hnx, Nat.sub_sub _ _ _, hm⟩⟩

/-- `Walks` on the parsed object; `keep` looks at the record's canonical piece -/
def FreshWalks (step : PP → Cursor → Res (Option Cursor)) (pp : PP) {p : Bytes} (L : C03.Layout p) (o : C05.Output p L)
    (sec : Section) (keep : Bytes → Bool) : Prop :=
  ∀ (c : Cursor) (j : Nat), CurAtFresh (L.recs sec) (L.endOf sec) sec j c →
    ∃ m, j ≤ m ∧ (∀ rc ∈ ((o.pieces sec).take m).drop j, keep rc = false) ∧
      ((m = (L.recs sec).length ∧ step pp c = .ok none) ∨
       ∃ (hm : m < (L.recs sec).length) (hm' : m < (o.pieces sec).length), keep (o.pieces sec)[m] = true ∧
         step pp c = .ok (some (cursorOn sec (L.recs sec) m hm)))

theorem freshWalks_incl {pp : PP} {p : Bytes} {v : View} (F : Fresh pp p v) (L : C03.Layout p) (o : C05.Output p L)
    (sec : Section) (hs : sec.isRec = true) : FreshWalks nextIncludingOpt pp L o sec (fun _ => true) := by
  intro c j hc
  obtain ⟨hnone, hsome⟩ := fresh_next F L sec hs j c hc
  refine ⟨j, Nat.le_refl _, fun rc hrc => ?_, ?_⟩
  · rw [List.drop_eq_nil_of_le (List.length_take_le _ _)] at hrc
    cases hrc
  · by_cases hj : j < (L.recs sec).length
    · exact .inr ⟨hj, (o.canon sec hs).length ▸ hj, rfl, (hsome hj).1⟩
    · exact .inl ⟨Nat.le_antisymm (before_le hc.2) (Nat.not_lt.1 hj), hnone hj⟩

theorem fresh_nextSkip_eq_incl {pp : PP} {p : Bytes} {v : View} (F : Fresh pp p v) (L : C03.Layout p) (sec : Section) (hs : sec.isRec = true)
    (hna : sec ≠ .additional) (j : Nat) (c : Cursor) (h : CurAtFresh (L.recs sec) (L.endOf sec) sec j c) :
    nextSkippingOpt pp c = nextIncludingOpt pp c := by
  obtain ⟨hnone, hsome⟩ := fresh_next F L sec hs j c h
  by_cases hj : j < (L.recs sec).length
  · obtain ⟨hnx, ob, oa, hr⟩ := hsome hj
    obtain ⟨ob0, oe0, hrun⟩ := L.run sec hs
    rw [nextSkip_of_some hnx, hnx]
    refine (maybeSkipOpt_spec (c := ⟨sec, _, _, _, _⟩) rfl (F.pk ▸ hr.2.1)).1 ?_
    rw [F.pk]
    exact hrun.no_opt_of_sec hna _ (List.getElem_mem hj)
  · rw [nextSkip_of_none (hnone hj), hnone hj]

theorem FreshWalks.of_public {pp : PP} {p : Bytes} {v : View} (F : Fresh pp p v) (L : C03.Layout p) (o : C05.Output p L)
    {sec : Section} (hs : sec.isRec = true) {step : PP → Cursor → Res (Option Cursor)}
    (hstep : step = nextIncludingOpt ∨ (step = nextSkippingOpt ∧ sec ≠ .additional)) :
    FreshWalks step pp L o sec (fun _ => true) := by
  rcases hstep with rfl | ⟨rfl, hna⟩
  · exact freshWalks_incl F L o sec hs
  · intro c j hc
    rw [fresh_nextSkip_eq_incl F L sec hs hna j c hc]
    exact freshWalks_incl F L o sec hs c j hc

/-- the plain object `P` holds the canonical pieces of the parsed packet, up to the records of `sec`
that `keep` selects (and that section's count) -/
def FromPieces {p : Bytes} {L : C03.Layout p} (o : C05.Output p L) (sec : Section) (keep : Bytes → Bool) {pp : PP}
    (P : PlainObj pp) : Prop :=
  (P.lst sec).filter (fun rc => !keep rc) = (o.pieces sec).filter (fun rc => !keep rc) ∧
  (∀ s, s ≠ sec → P.lst s = o.pieces s) ∧ o.qc = (encLabels P.qls ++ [0]) ++ P.q4 ∧
  (∀ i, (i + 1 < sectionCountOffset sec ∨ sectionCountOffset sec + 1 < i) → get16 P.hdr i = get16 (p.take 12) i)

theorem FromPieces.trans {p : Bytes} {L : C03.Layout p} {o : C05.Output p L} {sec : Section} {keep : Bytes → Bool} {pp pp' : PP}
    {P : PlainObj pp} {P' : PlainObj pp'} (h : FromPieces o sec keep P) (h' : P.SameBut P' sec keep) : FromPieces o sec keep P' :=
  ⟨h'.1.trans h.1, fun s hs => (h'.2.1 s hs).trans (h.2.1 s hs), by rw [h'.2.2.1, h'.2.2.2.1]; exact h.2.2.1,
    fun i hi => (h'.2.2.2.2 i hi).trans (h.2.2.2 i hi)⟩

def FreshSim (sec : Section) (keep : Bytes → Bool) (pp0 : PP) {p : Bytes} (L : C03.Layout p) (o : C05.Output p L) (pp : PP)
    (c : Cursor) (xs : List Bytes) (i : Nat) : Prop :=
  (pp = pp0 ∧ xs = (o.pieces sec).filter keep ∧
    ∃ j, CurAtFresh (L.recs sec) (L.endOf sec) sec j c ∧ i = (((o.pieces sec).take j).filter keep).length) ∨
  ∃ (pp1 : PP) (P1 : PlainObj pp1), FromPieces o sec keep P1 ∧ PlainSim sec keep P1 pp c xs i

/-- if nothing is deleted the object is untouched, otherwise the result is a plain object that holds what the machine
left of the pieces `keep` selects and, for the rest, the canonical pieces of the input -/
theorem delWalk_fresh_refines_of {pp : PP} {p : Bytes} {v : View} (F : Fresh pp p v) (L : C03.Layout p) (o : C05.Output p L)
    {sec : Section} (hs : sec.isRec = true) {step : PP → Cursor → Res (Option Cursor)} {keep : Bytes → Bool}
    (WF : FreshWalks step pp L o sec keep) (W : Walks step sec keep) (choose : Nat → Bool) (fuel k : Nat) (c : Cursor) (j : Nat)
    (hc : CurAtFresh (L.recs sec) (L.endOf sec) sec j c) {r : List Bytes × List (Bytes × Bool)}
    (h : absWalk choose fuel k ((o.pieces sec).filter keep) (((o.pieces sec).take j).filter keep).length = some r) :
    ∃ (pp' : PP) (log : List (Bytes × Bool)), delWalk step choose fuel k pp c = .ok (pp', log) ∧
      log.map (·.2) = r.2.map (·.2) ∧
      ((pp' = pp ∧ r.1 = (o.pieces sec).filter keep ∧ ∀ e ∈ r.2, e.2 = false) ∨
       ∃ P' : PlainObj pp', (P'.lst sec).filter keep = r.1 ∧ FromPieces o sec keep P') := by
  have hlen : (o.pieces sec).length = (L.recs sec).length := (o.canon sec hs).length
  obtain ⟨pp', log, hw, hl, c', i', hfin⟩ := delWalk_sim (Sim := FreshSim sec keep pp L o) (·.2)
    (fun {pp1 c xs i} hsim hi => by
      rcases hsim with ⟨rfl, rfl, j, hc, rfl⟩ | ⟨_, _, _, hsim⟩
      · obtain ⟨m, hjm, hid, ⟨_, hstep⟩ | ⟨_, hm', hk, _⟩⟩ := WF c j hc
        · exact hstep
        · rw [← filter_take_hidden keep _ hjm hid, filter_split_kept keep _ hm' hk, List.length_append, List.length_cons] at hi
          omega
      · exact hsim.ends W hi)
    (fun {pp1 c xs i} hsim hi => by
      rcases hsim with ⟨rfl, rfl, j, hc, hij⟩ | ⟨pp0, P0, hfrom, hsim⟩
      · obtain ⟨m, hjm, hid, hstep⟩ := WF c j hc
        obtain rfl := hij.trans (congrArg List.length (filter_take_hidden keep (o.pieces sec) hjm hid)).symm
        obtain ⟨rfl, _⟩ | ⟨hm, hm', hk, hstep⟩ := hstep
        · rw [← hlen, List.take_length] at hi
          omega
        obtain ⟨pp1, P1, c1, hdel, hvoid, hsec1, e1, e2, e3, e4⟩ := delete_fresh F L o sec hs (split_at (L.recs sec) m hm)
          (split_at (o.pieces sec) m hm') (by rw [List.length_take, List.length_take, hlen])
          (cursorOn sec (L.recs sec) m hm) rfl rfl
        exact ⟨_, hstep, fun _ => rfl,
          .inl ⟨rfl, rfl, m + 1, L.curAt_succ sec hs hm, (length_filter_take_succ keep _ hm' hk).symm⟩, pp1, c1, hdel,
          .inr ⟨pp1, P1, ⟨by rw [e1, filter_not_erase_kept keep _ hm' hk], e2, e3, e4⟩, P1, 0, ⟨hsec1, .inl ⟨hvoid, rfl⟩⟩,
            by rw [e1, eraseIdx_filter_kept keep _ hm' hk], rfl, .refl P1 sec keep⟩⟩
      · obtain ⟨c', h1, _, h3, pp2, c2, h4, h5⟩ := hsim.yields hs W hi
        exact ⟨c', h1, fun _ => rfl, .inr ⟨pp0, P0, hfrom, h3⟩, pp2, c2, h4, .inr ⟨pp0, P0, hfrom, h5⟩⟩)
    fuel k pp c _ _ (.inl ⟨rfl, rfl, j, hc, rfl⟩) r h
  refine ⟨pp', log, hw, hl, ?_⟩
  rcases hfin with ⟨rfl, e, _⟩ | ⟨_, P1, hfrom, P', _, _, e, _, hfr⟩
  · exact .inl ⟨rfl, e, (absWalk_run h).none_deleted (by rw [e])⟩
  · exact .inr ⟨P', e.symm, hfrom.trans hfr⟩

theorem delWalk_fresh_refines {pp : PP} {p : Bytes} {v : View} (F : Fresh pp p v) (L : C03.Layout p) (o : C05.Output p L)
    (sec : Section) (hs : sec.isRec = true) (step : PP → Cursor → Res (Option Cursor))
    (hstep : step = nextIncludingOpt ∨ (step = nextSkippingOpt ∧ sec ≠ .additional)) (choose : Nat → Bool) :
    ∀ (fuel k : Nat) (c : Cursor) (j : Nat), CurAtFresh (L.recs sec) (L.endOf sec) sec j c →
      ∀ r, absWalk choose fuel k (o.pieces sec) j = some r →
        ∃ (pp' : PP) (log : List (Bytes × Bool)), delWalk step choose fuel k pp c = .ok (pp', log) ∧
          log.map (·.2) = r.2.map (·.2) ∧
          ((pp' = pp ∧ r.1 = o.pieces sec ∧ ∀ e ∈ r.2, e.2 = false) ∨
           (∃ P' : PlainObj pp', P'.lst sec = r.1 ∧ (∀ s, s ≠ sec → P'.lst s = o.pieces s) ∧
              o.qc = (encLabels P'.qls ++ [0]) ++ P'.q4 ∧
              (∀ i, (i + 1 < sectionCountOffset sec ∨ sectionCountOffset sec + 1 < i) → get16 P'.hdr i = get16 (p.take 12) i))) := by
  intro fuel k c j hc r h
  have hj : (((o.pieces sec).take j).filter (fun _ => true)).length = j := by
    rw [filter_all, List.length_take, (o.canon sec hs).length, Nat.min_eq_left (before_le hc.2)]
  obtain ⟨pp', log, hw, hl, hres⟩ := delWalk_fresh_refines_of F L o hs (FreshWalks.of_public F L o hs hstep)
    (Walks.of_public hs hstep) choose fuel k c j hc (by rw [filter_all, hj]; exact h)
  refine ⟨pp', log, hw, hl, ?_⟩
  rcases hres with ⟨h1, h2, h3⟩ | ⟨P', e, _, hrest⟩
  · exact .inl ⟨h1, by rw [h2, filter_all], h3⟩
  · exact .inr ⟨P', by rw [← e, filter_all], hrest⟩

theorem recCanon_isOpt {p : Bytes} {sec : Section} {r : RecPos} {ob oa : Bool} {rc : Bytes}
    (hr : RRAtPos p sec r ob oa) (hc : RecCanon p r rc) : isOptPiece rc = true ↔ get16 p r.ne = 41 := by
  obtain ⟨owner, rd, hvo, hrd, hrc⟩ := hc
  obtain ⟨hne, h10, hnext, hfit, hbody⟩ := hr
  have hf8 : ((p.drop r.ne).take 8).length = 8 := length_take_drop (by omega)
  have hty : get16 ((p.drop r.ne).take 8) 0 = get16 p r.ne := by
    have := (agree_window p r.ne 8).get16 (i := 0) (by omega)
    simpa using this
  have hshape := isOptPiece_shape owner ((p.drop r.ne).take 8) (put16 rd.length ++ rd) (validName_ok hvo) hf8
  have e : (encLabels owner ++ [0]) ++ (p.drop r.ne).take 8 ++ (put16 rd.length ++ rd) = rc := by rw [hrc]; simp
  rw [e, hty] at hshape
  refine ⟨fun h => (hshape.1 h).2, fun h41 => hshape.2 ⟨?_, h41⟩⟩
  rw [if_pos h41] at hbody
  have hne1 : r.ne = r.off + 1 := hbody.2.1
  rw [hne1] at hvo
  exact owner_nil hvo

theorem CanonRun.at_idx {p : Bytes} {l : List RecPos} {ps : List Bytes} (h : CanonRun p l ps) :
    ∀ j (hj : j < l.length) (hj' : j < ps.length), RecCanon p l[j] ps[j] := by
  induction h with
  | nil => intro j hj; cases hj
  | @cons r l rc ps hc _ ih =>
    intro j hj hj'
    cases j with
    | zero => exact hc
    | succ j => exact ih j (Nat.lt_of_succ_lt_succ hj) (Nat.lt_of_succ_lt_succ hj')

/-- `cursorOn` for the additional section -/
def curOn (l : List RecPos) (j : Nat) (hj : j < l.length) : Cursor :=
  ⟨.additional, some l[j].off, l[j].next, l[j].ne, l.length - j - 1⟩

theorem fresh_nextSkip_at {pp : PP} {p : Bytes} {v : View} (F : Fresh pp p v) (L : C03.Layout p) (o : C05.Output p L)
    (hone : ∀ j (hj : j < (o.pieces .additional).length), isOptPiece (o.pieces .additional)[j] = true →
      ∀ (hj1 : j + 1 < (o.pieces .additional).length), isOptPiece (o.pieces .additional)[j + 1] = false)
    (j : Nat) (c : Cursor) (h : CurAtFresh (L.recs .additional) (L.endOf .additional) .additional j c) :
    ((¬ j < (L.recs .additional).length) → nextSkippingOpt pp c = .ok none) ∧
    (∀ (hj : j < (L.recs .additional).length) (hj' : j < (o.pieces .additional).length), isOptPiece (o.pieces .additional)[j] = false →
      nextSkippingOpt pp c = .ok (some (curOn (L.recs .additional) j hj))) ∧
    (∀ (hj : j < (L.recs .additional).length) (hj' : j < (o.pieces .additional).length), isOptPiece (o.pieces .additional)[j] = true →
      ¬ j + 1 < (L.recs .additional).length → nextSkippingOpt pp c = .ok none) ∧
    (∀ (hj : j < (L.recs .additional).length) (hj' : j < (o.pieces .additional).length), isOptPiece (o.pieces .additional)[j] = true →
      ∀ (hj1 : j + 1 < (L.recs .additional).length),
        nextSkippingOpt pp c = .ok (some (curOn (L.recs .additional) (j + 1) hj1))) := by
  have hs : Section.additional.isRec = true := rfl
  have hcan := o.canon .additional hs
  obtain ⟨hnone, hsome⟩ := fresh_next F L .additional hs j c h
  -- once landed on record `j`: whether it is OPT is read off its canonical piece
  have landed : ∀ (hj : j < (L.recs .additional).length) (hj' : j < (o.pieces .additional).length),
      nextSkippingOpt pp c = maybeSkipOpt pp (cursorOn .additional (L.recs .additional) j hj) ∧
      (isOptPiece (o.pieces .additional)[j] = true ↔ get16 pp.packet (L.recs .additional)[j].ne = 41) ∧
      (L.recs .additional)[j].ne + 10 ≤ pp.packet.length := fun hj hj' => by
    obtain ⟨hnx, ob, oa, hr⟩ := hsome hj
    rw [F.pk]
    exact ⟨nextSkip_of_some hnx, recCanon_isOpt hr (hcan.at_idx j hj hj'), hr.2.1⟩
  refine ⟨fun hj => nextSkip_of_none (hnone hj), fun hj hj' hvis => ?_, fun hj hj' hopt hlast => ?_, fun hj hj' hopt hj1 => ?_⟩
  · obtain ⟨hnx, hiff, h10⟩ := landed hj hj'
    rw [hnx]
    exact (maybeSkipOpt_spec (c := cursorOn .additional _ j hj) rfl h10).1 (mt hiff.2 (by rw [hvis]; exact Bool.false_ne_true))
  · obtain ⟨hnx, hiff, h10⟩ := landed hj hj'
    rw [hnx]
    exact ((maybeSkipOpt_spec (c := cursorOn .additional _ j hj) rfl h10).2 (hiff.1 hopt)).1
      ((Nat.sub_sub _ _ _).trans (Nat.sub_eq_zero_of_le (Nat.not_lt.1 hlast)))
  · obtain ⟨hnx, hiff, h10⟩ := landed hj hj'
    -- the record after OPT: a record of the policy, not another OPT
    obtain ⟨ob0, oe0, hrun⟩ := L.run .additional hs
    obtain ⟨ob2, oa2, hr2, _⟩ := hrun.at_idx.2 (j + 1) hj1
    obtain ⟨_, _, _, hadj⟩ := hrun.at_idx.2 j hj
    rw [posOfIdx, dif_pos hj1] at hadj
    have hj1' : j + 1 < (o.pieces .additional).length := hcan.length ▸ hj1
    have hr2' : RRAtPos pp.packet .additional (L.recs .additional)[j + 1] ob2 oa2 := by rw [F.pk]; exact hr2
    have h41' : get16 pp.packet (L.recs .additional)[j + 1].ne ≠ 41 := by
      rw [F.pk]
      exact mt (recCanon_isOpt hr2 (hcan.at_idx (j + 1) hj1 hj1')).2 (by rw [hone j hj' hopt hj1']; exact Bool.false_ne_true)
    rw [hnx, ((maybeSkipOpt_spec (c := cursorOn .additional _ j hj) rfl h10).2 (hiff.1 hopt)).2
      (fun hz => Nat.sub_ne_zero_of_lt hj1 ((Nat.sub_sub _ _ _).symm.trans hz)) hr2' hadj h41']
    simp only [curOn, cursorOn, Nat.sub_sub]

theorem freshWalks_skip {pp : PP} {p : Bytes} {v : View} (F : Fresh pp p v) (L : C03.Layout p) (o : C05.Output p L)
    (hone : ∀ j (hj : j < (o.pieces .additional).length), isOptPiece (o.pieces .additional)[j] = true →
      ∀ (hj1 : j + 1 < (o.pieces .additional).length), isOptPiece (o.pieces .additional)[j + 1] = false) :
    FreshWalks nextSkippingOpt pp L o .additional (fun rc => !isOptPiece rc) := by
  intro c j hc
  obtain ⟨hend, hvisible, hoptlast, hoptthen⟩ := fresh_nextSkip_at F L o hone j c hc
  have hlen : (o.pieces .additional).length = (L.recs .additional).length := (o.canon .additional rfl).length
  have hnil : ∀ rc ∈ ((o.pieces .additional).take j).drop j, (!isOptPiece rc) = false := fun rc hrc => by
    rw [List.drop_eq_nil_of_le (List.length_take_le _ _)] at hrc
    cases hrc
  by_cases hj : j < (L.recs .additional).length
  · have hj' : j < (o.pieces .additional).length := hlen ▸ hj
    cases hopt : isOptPiece (o.pieces .additional)[j]
    · exact ⟨j, Nat.le_refl _, hnil, .inr ⟨hj, hj', congrArg not hopt, hvisible hj hj' hopt⟩⟩
    · refine ⟨j + 1, Nat.le_succ _, fun rc hrc => ?_, ?_⟩
      · rw [drop_take_succ _ hj', List.mem_singleton] at hrc
        rw [hrc]; exact congrArg not hopt
      · by_cases hj1 : j + 1 < (L.recs .additional).length
        · have hj1' : j + 1 < (o.pieces .additional).length := hlen ▸ hj1
          exact .inr ⟨hj1, hj1', congrArg not (hone j hj' hopt hj1'), hoptthen hj hj' hopt hj1⟩
        · exact .inl ⟨Nat.le_antisymm hj (Nat.not_lt.1 hj1), hoptlast hj hj' hopt hj1⟩
  · exact ⟨j, Nat.le_refl _, hnil, .inl ⟨Nat.le_antisymm (before_le hc.2) (Nat.not_lt.1 hj), hend hj⟩⟩

theorem delWalkSkip_fresh_refines {pp : PP} {p : Bytes} {v : View} (F : Fresh pp p v) (L : C03.Layout p) (o : C05.Output p L)
    (hone : ∀ j (hj : j < (o.pieces .additional).length), isOptPiece (o.pieces .additional)[j] = true →
      ∀ (hj1 : j + 1 < (o.pieces .additional).length), isOptPiece (o.pieces .additional)[j + 1] = false)
    (choose : Nat → Bool) :
    ∀ (fuel k : Nat) (c : Cursor) (j : Nat), CurAtFresh (L.recs .additional) (L.endOf .additional) .additional j c →
      ∀ r, absWalk choose fuel k (vis (o.pieces .additional)) (vis ((o.pieces .additional).take j)).length = some r →
        ∃ (pp' : PP) (log : List (Bytes × Bool)), delWalk nextSkippingOpt choose fuel k pp c = .ok (pp', log) ∧
          log.map (·.2) = r.2.map (·.2) ∧
          ((pp' = pp ∧ r.1 = vis (o.pieces .additional) ∧ ∀ e ∈ r.2, e.2 = false) ∨
           (∃ P' : PlainObj pp', vis (P'.lst .additional) = r.1 ∧
              (P'.lst .additional).filter isOptPiece = (o.pieces .additional).filter isOptPiece ∧
              (∀ s, s ≠ .additional → P'.lst s = o.pieces s) ∧
              o.qc = (encLabels P'.qls ++ [0]) ++ P'.q4 ∧
              (∀ i, (i + 1 < 10 ∨ 11 < i) → get16 P'.hdr i = get16 (p.take 12) i))) := by
  intro fuel k c j hc r h
  obtain ⟨pp', log, hw, hl, hres⟩ := delWalk_fresh_refines_of F L o rfl (freshWalks_skip F L o hone) walks_skip choose fuel k c j hc h
  refine ⟨pp', log, hw, hl, ?_⟩
  rcases hres with hsame | ⟨P', e, hopt, hrest⟩
  · exact .inl hsame
  · simp only [Bool.not_not] at hopt
    exact .inr ⟨P', e, hopt, hrest⟩

end Dns
