/-
  Pointer-free names, on their own and inside a packet as windows of bytes, and what the
  readers return on them.
-/
import DnsModel.Lemmas.Canon
namespace Dns
open Res

theorem nm_split (pre suf : List (List UInt8)) :
    encLabels (pre ++ suf) ++ [0] = encLabels pre ++ (encLabels suf ++ [0]) := by
  rw [encLabels_append, List.append_assoc]

theorem nm_drop (pre suf : List (List UInt8)) :
    (encLabels (pre ++ suf) ++ [0]).drop (labSum pre) = encLabels suf ++ [0] := by
  rw [nm_split, ← encLabels_length pre, List.drop_append_length]

theorem nm_idx_nil (pre : List (List UInt8)) : idx (encLabels (pre ++ []) ++ [0]) (labSum pre) = .ok 0 := by
  apply idx_of_byteAt
  rw [nm_split, ← encLabels_length pre, byteAt_append_right0]
  rfl

theorem nm_idx_cons (pre : List (List UInt8)) (x : List UInt8) (suf : List (List UInt8)) (hx : okLabel x) :
    idx (encLabels (pre ++ x :: suf) ++ [0]) (labSum pre) = .ok x.length := by
  apply idx_of_byteAt
  rw [nm_split, ← encLabels_length pre, byteAt_append_right0]
  simp only [encLabels, List.cons_append, byteAt_cons_zero]
  unfold okLabel at hx
  simp; omega

theorem nm_slice (pre suf : List (List UInt8)) {n : Nat} (hn : n ≤ (encLabels suf ++ [0]).length) :
    slice (encLabels (pre ++ suf) ++ [0]) (labSum pre) (labSum pre + n) = .ok ((encLabels suf ++ [0]).take n) := by
  have hl : labSum pre + n ≤ (encLabels (pre ++ suf) ++ [0]).length := by
    rw [nm_split, List.length_append, encLabels_length]
    exact Nat.add_le_add_left hn _
  rw [slice_ok ⟨Nat.le_add_right _ _, hl⟩, nm_drop, Nat.add_sub_cancel_left]

theorem nm_slice_rest (pre suf : List (List UInt8)) :
    slice (encLabels (pre ++ suf) ++ [0]) (labSum pre) (encLabels (pre ++ suf) ++ [0]).length = .ok (encLabels suf ++ [0]) := by
  have hl : (encLabels (pre ++ suf) ++ [0]).length = labSum pre + (encLabels suf ++ [0]).length := by
    rw [nm_split, List.length_append, encLabels_length]
  rw [hl, nm_slice pre suf (Nat.le_refl _), List.take_length]

/-- at `off` the packet holds, written out in full, the name with labels `ls` (within all limits) -/
def PlainAt (p : Bytes) (off : Nat) (ls : List (List UInt8)) : Prop :=
  (p.drop off).take (labSum ls + 1) = encLabels ls ++ [0] ∧ (∀ l ∈ ls, okLabel l) ∧ wireLen ls ≤ 255 ∧
    (∀ l ∈ ls, goodChars l = true)

theorem PlainAt.fits {p : Bytes} {off : Nat} {ls : List (List UInt8)} (h : PlainAt p off ls) :
    off + labSum ls + 1 ≤ p.length := by
  have := congrArg List.length h.1
  rw [encLen_eq] at this
  simp at this
  omega

theorem PlainAt.split {p : Bytes} {off : Nat} {ls : List (List UInt8)} (h : PlainAt p off ls) :
    p = p.take off ++ (encLabels ls ++ [0]) ++ p.drop (off + labSum ls + 1) := by
  have hf := h.fits
  rw [← h.1, List.append_assoc]
  have e : p.drop (off + labSum ls + 1) = (p.drop off).drop (labSum ls + 1) := by rw [List.drop_drop, Nat.add_assoc]
  rw [e, List.take_append_drop, List.take_append_drop]

theorem PlainAt.valid {p : Bytes} {off : Nat} {ls : List (List UInt8)} (h : PlainAt p off ls) :
    ValidName p off ls (off + labSum ls + 1) := by
  have hf := h.fits
  have := validName_at (u := p) (A := p.take off) (B := p.drop (off + labSum ls + 1)) h.split h.2.1 h.2.2.1 h.2.2.2
  have hl : (p.take off).length = off := by simp; omega
  rw [hl] at this; exact this

theorem plainAt_of_eq {u A B : Bytes} {ls : List (List UInt8)} (h : u = A ++ (encLabels ls ++ [0]) ++ B)
    (hok : ∀ l ∈ ls, okLabel l) (hw : wireLen ls ≤ 255) (hg : ∀ l ∈ ls, goodChars l = true) : PlainAt u A.length ls := by
  refine ⟨?_, hok, hw, hg⟩
  have := window_eq h
  rw [encLen_eq] at this; exact this

theorem plainAt_self {ls : List (List UInt8)} (hok : ∀ l ∈ ls, okLabel l) (hw : wireLen ls ≤ 255)
    (hg : ∀ l ∈ ls, goodChars l = true) : PlainAt (encLabels ls ++ [0]) 0 ls :=
  plainAt_of_eq (u := encLabels ls ++ [0]) (A := []) (B := []) (List.append_nil _).symm hok hw hg

theorem PlainAt.idx {p : Bytes} {off : Nat} {pre suf : List (List UInt8)} (h : PlainAt p off (pre ++ suf)) :
    idx p (off + labSum pre) = idx (encLabels (pre ++ suf) ++ [0]) (labSum pre) := by
  unfold Dns.idx
  rw [window_byteAt h.1 (by rw [labSum_append]; omega)]

theorem PlainAt.slice {p : Bytes} {off : Nat} {ls : List (List UInt8)} (h : PlainAt p off ls) :
    slice p off (off + (labSum ls + 1)) = .ok (encLabels ls ++ [0]) := by
  have hf := h.fits
  rw [slice_ok ⟨by omega, by omega⟩]
  have : off + (labSum ls + 1) - off = labSum ls + 1 := by omega
  rw [this, h.1]

theorem rawLenAfter_window (p : Bytes) (off : Nat) (suf : List (List UInt8)) :
    ∀ (pre : List (List UInt8)) (fuel acc : Nat), PlainAt p off (pre ++ suf) → fuel > suf.length →
      rawNameLenAfterLoop p fuel (off + labSum pre) acc = .ok (acc + labSum suf + 1) := by
  induction suf with
  | nil =>
    intro pre fuel acc h hf
    cases fuel with
    | zero => omega
    | succ n =>
      unfold rawNameLenAfterLoop
      have hnp : isPtr 0 = false := by decide
      simp only [h.idx, nm_idx_nil, bind_ok, hnp, Bool.false_eq_true, if_false, beq_self_eq_true, if_true, pure_eq]
      simp [labSum]
  | cons x suf ih =>
    intro pre fuel acc h hf
    cases fuel with
    | zero => omega
    | succ n =>
      have hx : okLabel x := h.2.1 x (by simp)
      unfold rawNameLenAfterLoop
      have hnp : isPtr x.length = false := isPtr_false_of_le hx.2
      have hnz : (x.length == 0) = false := by rw [beq_eq_false_iff_ne]; unfold okLabel at hx; omega
      simp only [h.idx, nm_idx_cons pre x suf hx, bind_ok, hnp, Bool.false_eq_true, if_false, hnz]
      have e1 : pre ++ x :: suf = (pre ++ [x]) ++ suf := by simp
      have e2 : off + labSum pre + 1 + x.length = off + labSum (pre ++ [x]) := by
        rw [labSum_append, labSum_cons]; simp [labSum]; omega
      rw [e2, ih (pre ++ [x]) n _ (by rw [← e1]; exact h) (by simp at hf; omega), labSum_cons]
      congr 1; omega

theorem PlainAt.rawLenAfter {p : Bytes} {off : Nat} {ls : List (List UInt8)} (h : PlainAt p off ls) :
    rawNameLenAfterDecompression p off = .ok (labSum ls + 1) := by
  unfold rawNameLenAfterDecompression
  have hlen := length_lt_wireLen ls
  have hw := h.2.2.1
  have := rawLenAfter_window p off ls [] nameFuel 0 (by simpa using h) (by
    have := nameFuel_eq
    omega)
  simp only [labSum, List.map_nil, List.sum_nil, Nat.add_zero, Nat.zero_add] at this
  rw [this]
  simp [labSum]

end Dns
