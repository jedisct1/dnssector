/-
  Bit-level facts about 16-bit words stored big-endian in two bytes.
-/
import DnsModel.Packet
import DnsModel.Lemmas.Bytes
namespace Dns

theorem testBit_word (hi lo j : Nat) (hlo : lo < 256) :
    (hi * 256 + lo).testBit j = if j < 8 then lo.testBit j else hi.testBit (j - 8) := by
  have : hi * 256 + lo = 2 ^ 8 * hi + lo := by omega
  rw [this, Nat.testBit_two_pow_mul_add hi (by simpa using hlo)]

theorem testBit_byte {b i : Nat} (hb : b < 256) (hi : 8 ≤ i) : b.testBit i = false :=
  Nat.testBit_lt_two_pow (Nat.lt_of_lt_of_le hb (Nat.pow_le_pow_right (Nat.zero_lt_two) hi))

theorem field_eq_of_bits {x y k n : Nat} (h : ∀ i, i < n → x.testBit (i + k) = y.testBit i) :
    x / 2 ^ k % 2 ^ n = y % 2 ^ n := by
  apply Nat.eq_of_testBit_eq
  intro i
  simp only [Nat.testBit_mod_two_pow, Nat.testBit_div_two_pow]
  by_cases hi : i < n
  · simp [hi, h i hi]
  · simp [hi]

theorem word_mod_16 (hi lo : Nat) : (hi * 256 + lo) % 2 ^ 4 = lo % 2 ^ 4 := by
  rw [show hi * 256 = 2 ^ 4 * (hi * 16) by omega]
  exact Nat.mul_add_mod ..

theorem word_div_2048 (hi lo : Nat) (hlo : lo < 256) : (hi * 256 + lo) / 2 ^ 11 = hi / 2 ^ 3 := by
  rw [show (2 : Nat) ^ 11 = 256 * 2 ^ 3 from rfl, ← Nat.div_div_eq_div_mul, Nat.mul_comm hi,
    Nat.mul_add_div (by decide), Nat.div_eq_of_lt hlo, Nat.add_zero]

theorem div_mod_eq_of_bits {x y k n : Nat} (h : ∀ i, i < n → x.testBit (i + k) = y.testBit (i + k)) :
    x / 2 ^ k % 2 ^ n = y / 2 ^ k % 2 ^ n :=
  field_eq_of_bits fun i hi => by rw [h i hi, Nat.testBit_div_two_pow]

theorem mod_eq_of_bits {x y n : Nat} (h : ∀ i, i < n → x.testBit i = y.testBit i) :
    x % 2 ^ n = y % 2 ^ n := by
  simpa using field_eq_of_bits (k := 0) h

theorem and_two_pow_eq (f k : Nat) : f &&& 2 ^ k = if f.testBit k then 2 ^ k else 0 := by
  apply Nat.eq_of_testBit_eq
  intro j
  rw [Nat.testBit_and, Nat.testBit_two_pow]
  by_cases hj : k = j
  · subst hj; cases f.testBit k <;> simp
  · cases hf : f.testBit k <;> simp [hj]

theorem and_two_pow_beq (f k : Nat) : (f &&& 2 ^ k == 2 ^ k) = f.testBit k := by
  rw [and_two_pow_eq]
  have : 2 ^ k ≠ 0 := Nat.pos_iff_ne_zero.1 (Nat.two_pow_pos k)
  cases f.testBit k <;> simp [Ne.symm this]

theorem and_shl_shr (x m k : Nat) : (x &&& (m <<< k)) >>> k = (x >>> k) &&& m := by
  apply Nat.eq_of_testBit_eq
  intro i
  rw [Nat.testBit_shiftRight, Nat.testBit_and, Nat.testBit_shiftLeft, Nat.testBit_and, Nat.testBit_shiftRight,
    Nat.add_sub_cancel_left, decide_eq_true (Nat.le_add_right k i), Bool.true_and]

/-- masks that split the low `n` bits between them -/
theorem testBit_compl {k m n i : Nat} (h : k ^^^ m = 2 ^ n - 1) (hi : i < n) : k.testBit i = !m.testBit i := by
  have := congrArg (·.testBit i) h
  simp only [Nat.testBit_xor, Nat.testBit_two_pow_sub_one, hi, decide_true] at this
  revert this
  cases k.testBit i <;> cases m.testBit i <;> decide

theorem testBit_merge {k m n : Nat} (h : k ^^^ m = 2 ^ n - 1) (x v : Nat) {i : Nat} (hi : i < n) :
    ((x &&& k) ||| (v &&& m)).testBit i = if m.testBit i then v.testBit i else x.testBit i := by
  rw [Nat.testBit_or, Nat.testBit_and, Nat.testBit_and, testBit_compl h hi]
  cases m.testBit i <;> simp

end Dns
