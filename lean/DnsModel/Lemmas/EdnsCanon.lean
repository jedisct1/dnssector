/-
  Records with the same canonical form carry the same EDNS summary (but for the
  position): decompression keeps option count, extended rcode, version, flags and payload size.
-/
import DnsModel.Lemmas.Assemble
import DnsModel.Theorems.C05
import DnsModel.Lemmas.CiTrans
namespace Dns
open Res

/-- the EDNS summary without the position -/
def EdnsInfo.core (i : EdnsInfo) : Nat × Option Nat × Option Nat × Option Nat × Nat :=
  (i.count, i.extRcode, i.version, i.flags, i.maxPayload)

theorem optInfo_of_same_canon {p u : Bytes} {r r' : RecPos} {sec sec' : Section} {ob oa ob' oa' : Bool} {rc : Bytes} {n n' : Nat}
    (hr : RRAtPos p sec r ob oa) (hr' : RRAtPos u sec' r' ob' oa') (hc : RecCanon p r rc) (hc' : RecCanon u r' rc)
    (h41 : get16 p r.ne = 41) (h41' : get16 u r'.ne = 41)
    (ht : OptionsTile p (r.ne + 10) (r.ne + 10 + get16 p (r.ne + 8)) n)
    (ht' : OptionsTile u (r'.ne + 10) (r'.ne + 10 + get16 u (r'.ne + 8)) n') :
    (optInfo u r'.ne n').core = (optInfo p r.ne n).core := by
  obtain ⟨o1, rd1, hv1, hrd1, hx1⟩ := hc
  obtain ⟨o2, rd2, hv2, hrd2, hx2⟩ := hc'
  obtain ⟨_, h10, hnext, hfit, _⟩ := hr
  obtain ⟨_, h10', hnext', hfit', _⟩ := hr'
  have hf8 : ((p.drop r.ne).take 8).length = 8 := length_take_drop (by omega)
  have hf8' : ((u.drop r'.ne).take 8).length = 8 := length_take_drop (by omega)
  obtain ⟨eo, ef, erd⟩ := canon_split (validName_ok hv1).1 (validName_ok hv2).1 hf8 hf8' (by rw [← hx1, ← hx2])
  subst eo; subst erd
  have hag : Agree p u r.ne r'.ne 8 := agree_of_window_eq ef
  unfold RdCanon at hrd1 hrd2
  have c1 : ¬ ((41 : Nat) = 2 ∨ (41 : Nat) = 5 ∨ (41 : Nat) = 12) := by decide
  have c2 : ¬ ((41 : Nat) = 15) := by decide
  have c3 : ¬ ((41 : Nat) = 6) := by decide
  simp only [h41, h41', c1, c2, c3, if_false] at hrd1 hrd2
  have hl1 : ((p.drop (r.ne + 10)).take (get16 p (r.ne + 8))).length = get16 p (r.ne + 8) := length_take_drop (by omega)
  have hl2 : ((u.drop (r'.ne + 10)).take (get16 u (r'.ne + 8))).length = get16 u (r'.ne + 8) := length_take_drop (by omega)
  have hlen : get16 u (r'.ne + 8) = get16 p (r.ne + 8) := by
    have := congrArg List.length hrd1
    rw [hrd2, hl2, hl1] at this
    exact this
  have hagd : Agree p u (r.ne + 10) (r'.ne + 10) (get16 p (r.ne + 8)) :=
    agree_of_window_eq (by rw [← hrd1, ← hlen, ← hrd2])
  have hn : n' = n := by
    have := ht.translate u (r'.ne + 10) (by simpa using hagd)
    have e : r'.ne + 10 + (r.ne + 10 + get16 p (r.ne + 8) - (r.ne + 10)) = r'.ne + 10 + get16 u (r'.ne + 8) := by omega
    rw [e] at this
    exact ht'.functional this
  subst hn
  unfold optInfo EdnsInfo.core
  simp only [Prod.mk.injEq, Option.some.injEq]
  exact ⟨trivial, getB_of_agree hag (by omega), getB_of_agree hag (by omega), hag.get16 (i := 6) (by omega),
    hag.get16 (i := 2) (by omega)⟩

theorem firstOpt_canon {p u : Bytes} : ∀ {l l' : List RecPos} {ps : List Bytes}, CanonRun p l ps → CanonRun u l' ps →
    l'.map (fun r => get16 u r.ne) = l.map (fun r => get16 p r.ne) →
    (firstOpt p l = none ∧ firstOpt u l' = none) ∨
    (∃ r r' rc, firstOpt p l = some r ∧ firstOpt u l' = some r' ∧ RecCanon p r rc ∧ RecCanon u r' rc ∧ r ∈ l ∧ r' ∈ l') := by
  intro l l' ps h1
  induction h1 generalizing l' with
  | nil => intro h2 _; cases h2; left; exact ⟨rfl, rfl⟩
  | @cons r l rc ps hrc _ ih =>
    intro h2 hty
    cases h2 with
    | @cons r' l' _ _ hrc' h2' =>
      simp only [List.map_cons, List.cons.injEq] at hty
      obtain ⟨ht, hty'⟩ := hty
      by_cases h41 : get16 p r.ne = 41
      · right
        refine ⟨r, r', rc, by simp [firstOpt, h41], by simp [firstOpt, ht, h41], hrc, hrc', by simp, by simp⟩
      · have h41' : ¬ (get16 u r'.ne = 41) := by rw [ht]; exact h41
        have e1 : firstOpt p (r :: l) = firstOpt p l := by simp [firstOpt, h41]
        have e2 : firstOpt u (r' :: l') = firstOpt u l' := by simp [firstOpt, h41']
        rw [e1, e2]
        rcases ih h2' hty' with h | ⟨a, b, c, g1, g2, g3, g4, g5, g6⟩
        · exact Or.inl h
        · exact Or.inr ⟨a, b, c, g1, g2, g3, g4, by simp [g5], by simp [g6]⟩

theorem edns_preserved {p : Bytes} {v v2 : View} (h : parse p = .ok v) {L : C03.Layout p} (o : C05.Output p L)
    (h2 : parse o.bytes = .ok v2) : v2.info.core = v.info.core := by
  obtain ⟨L0, _, _, _, _, _, _, hinfo⟩ := C03.layout_full h
  obtain ⟨_, _, _, er0⟩ := C05.layout_unique L0 L
  rw [er0] at hinfo
  obtain ⟨_, L', _, _, _, hr', _, _, tlr, _⟩ := C05.output_layout h o
  obtain ⟨L0', _, _, _, _, _, _, hinfo'⟩ := C03.layout_full h2
  obtain ⟨_, _, _, er0'⟩ := C05.layout_unique L0' L'
  rw [er0'] at hinfo'
  rcases firstOpt_canon o.hr hr' tlr with ⟨e1, e2⟩ | ⟨r, r', rc, e1, e2, c1, c2, m1, m2⟩
  · rw [e1] at hinfo
    rw [e2] at hinfo'
    simp only at hinfo hinfo'
    rw [hinfo, hinfo']
  · rw [e1] at hinfo
    rw [e2] at hinfo'
    simp only at hinfo hinfo'
    obtain ⟨n, ht, hi⟩ := hinfo
    obtain ⟨n', ht', hi'⟩ := hinfo'
    obtain ⟨ob, oa, hpos⟩ := RRsL.mem_pos L.hr r m1
    obtain ⟨ob', oa', hpos'⟩ := RRsL.mem_pos L'.hr r' m2
    have h41 : get16 p r.ne = 41 := by
      have := List.find?_some e1; simpa using this
    have h41' : get16 o.bytes r'.ne = 41 := by
      have := List.find?_some e2; simpa using this
    rw [hi, hi']
    exact optInfo_of_same_canon hpos hpos' c1 c2 h41 h41' ht ht'

theorem edns_fields_preserved {p : Bytes} {v v2 : View} (h : parse p = .ok v) {L : C03.Layout p} (o : C05.Output p L)
    (h2 : parse o.bytes = .ok v2) :
    v2.ednsCount = v.ednsCount ∧ v2.extRcode = v.extRcode ∧ v2.ednsVersion = v.ednsVersion ∧ v2.extFlags = v.extFlags ∧
      v2.maxPayload = v.maxPayload := by
  have hcore := edns_preserved h o h2
  unfold EdnsInfo.core View.info at hcore
  simp only [Prod.mk.injEq] at hcore
  exact hcore

end Dns
