/-
  Renaming one record: either every renamed name fits and the record written is a
  record of the policy whose names are the renamed names up to case and whose other bytes are the
  input's, or some renamed name exceeds 255 bytes and the call fails with `InvalidName`.
-/
import DnsModel.Lemmas.RenameName
import DnsModel.Lemmas.CompressRec
namespace Dns
open Res

/-- `patch16_rdlen` with the result associated as the name steps need it -/
theorem patch16_header {u : Bytes} {ne : Nat} (h10 : ne + 10 ≤ u.length) (O rd : Bytes) (hrd : rd.length < 65536) :
    patch16 (O ++ (u.drop ne).take 10 ++ rd) (O.length + 8) rd.length =
      .ok (O ++ ((u.drop ne).take 8 ++ put16 rd.length) ++ rd) := by
  rw [patch16_rdlen O h10 rfl rfl hrd, List.append_assoc O]

/-- `RdCi` with `R` (labels before ↦ labels after) put between the labels read and the labels written -/
def RdRen (R : List (List UInt8) → List (List UInt8) → Prop) (u B : Bytes) (t l rs l' rs' : Nat) : Prop :=
  if t = 2 ∨ t = 5 ∨ t = 12 then
    ∃ ls lsr ls', ValidName u rs ls (rs + l) ∧ R ls lsr ∧ ValidName B rs' ls' (rs' + l') ∧ lsCi ls' lsr
  else if t = 15 then
    (B.drop rs').take 2 = (u.drop rs).take 2 ∧
      ∃ ls lsr ls', ValidName u (rs + 2) ls (rs + l) ∧ R ls lsr ∧ ValidName B (rs' + 2) ls' (rs' + l') ∧ lsCi ls' lsr
  else if t = 6 then
    ∃ l1 l2 l1r l2r l1' l2' e1 e1', ValidName u rs l1 e1 ∧ ValidName u e1 l2 (rs + l - 20) ∧ R l1 l1r ∧ R l2 l2r ∧
      ValidName B rs' l1' e1' ∧ ValidName B e1' l2' (rs' + l' - 20) ∧ lsCi l1' l1r ∧ lsCi l2' l2r ∧
      (B.drop (rs' + l' - 20)).take 20 = (u.drop (rs + l - 20)).take 20
  else l' = l ∧ (B.drop rs').take l = (u.drop rs).take l

/-- record `r'` of `B` is record `r` of `u` with its names renamed by `R` (up to case), everything
else identical -/
def RecRen (R : List (List UInt8) → List (List UInt8) → Prop) (u : Bytes) (r : RecPos) (B : Bytes) (r' : RecPos) : Prop :=
  ∃ owner ownr owner', ValidName u r.off owner r.ne ∧ R owner ownr ∧ ValidName B r'.off owner' r'.ne ∧ lsCi owner' ownr ∧
    (B.drop r'.ne).take 8 = (u.drop r.ne).take 8 ∧
    RdRen R u B (get16 u r.ne) (get16 u (r.ne + 8)) (r.ne + 10) (get16 B (r'.ne + 8)) (r'.ne + 10)

/-- some name of the record grows past 255 bytes under `R` -/
def RecOverflow (R : List (List UInt8) → List (List UInt8) → Prop) (u : Bytes) (r : RecPos) : Prop :=
  ∃ off e ls lsr, r.off ≤ off ∧ off < r.next ∧ ValidName u off ls e ∧ R ls lsr ∧ 255 < wireLen lsr

theorem record_frame {u : Bytes} {sec : Section} {r : RecPos} {ob oa : Bool} (hr : RRAtPos u sec r ob oa)
    {R : List (List UInt8) → List (List UInt8) → Prop} {owner ownr owner' : List (List UInt8)}
    (hvo : ValidName u r.off owner r.ne) (hren : R owner ownr) (hci : lsCi owner' ownr)
    {out cname rd tl B : Bytes} (hB : B = out ++ cname ++ ((u.drop r.ne).take 8 ++ put16 rd.length) ++ rd ++ tl)
    (hval : ValidName B out.length owner' (out.length + cname.length))
    (hopt : get16 u r.ne = 41 → cname.length = 1) (hlt : rd.length < 65536)
    (hb : if get16 u r.ne = 41 then
            ∃ n, OptionsTile B (out.length + cname.length + 10) (out.length + cname.length + 10 + rd.length) n
          else RDataOK B (get16 u r.ne) rd.length (out.length + cname.length + 10))
    (hrd : RdRen R u B (get16 u r.ne) (get16 u (r.ne + 8)) (r.ne + 10) rd.length (out.length + cname.length + 10)) :
    RRAtPos B sec ⟨out.length, out.length + cname.length, out.length + cname.length + 10 + rd.length⟩ ob oa ∧
      get16 B (out.length + cname.length) = get16 u r.ne ∧
      RecRen R u r B ⟨out.length, out.length + cname.length, out.length + cname.length + 10 + rd.length⟩ := by
  obtain ⟨_, h10, _, _, hbody⟩ := hr
  have hf8 : ((u.drop r.ne).take 8).length = 8 := length_take_drop (by omega)
  have hA : (out ++ cname).length = out.length + cname.length := List.length_append
  have hag : Agree u B r.ne (out.length + cname.length) 8 :=
    hA ▸ agree_of_eq (B := put16 rd.length ++ rd ++ tl) (by rw [hB]; simp only [List.append_assoc]) (by omega)
  have hty : get16 B (out.length + cname.length) = get16 u r.ne := hag.get16 (i := 0) (by omega)
  have hl' : get16 B (out.length + cname.length + 8) = rd.length := by
    have := get16_put16_at (u := B) (A := out ++ cname ++ (u.drop r.ne).take 8) (B := rd ++ tl)
      (by rw [hB]; simp only [List.append_assoc]) hlt
    rwa [List.length_append, hA, hf8] at this
  have hwin : (B.drop (out.length + cname.length)).take 8 = (u.drop r.ne).take 8 :=
    window_at (B := put16 rd.length ++ rd ++ tl) (by rw [hB]; simp only [List.append_assoc]) hA hf8
  have hlen : B.length = out.length + cname.length + 10 + rd.length + tl.length := by
    rw [hB]; simp only [List.length_append, hf8, put16, List.length_cons, List.length_nil]
  refine ⟨⟨⟨owner', hval⟩, by simp only; omega, by simp only; rw [hl'], by simp only; omega, ?_⟩, hty,
    owner, ownr, owner', hvo, hren, hval, hci, hwin, by simp only; rw [hl']; exact hrd⟩
  simp only
  rw [hty, hl']
  by_cases h41 : get16 u r.ne = 41
  · rw [if_pos h41] at hbody hb ⊢
    have := hopt h41
    exact ⟨hbody.1, by omega, hbody.2.2.1, hbody.2.2.2.1, hb⟩
  · rw [if_neg h41] at hbody hb ⊢
    exact ⟨hb, hbody.2⟩

theorem RdRen.ci {R : List (List UInt8) → List (List UInt8) → Prop} (hR : ∀ {a b}, R a b → lsCi b a) {u B : Bytes}
    {t l rs l' rs' : Nat} (h : RdRen R u B t l rs l' rs') : RdCi u B t l rs l' rs' := by
  unfold RdRen at h
  unfold RdCi
  rcases rdClass t with ht | rfl | rfl | ⟨h1, h2, h3⟩
  · rw [if_pos ht] at h ⊢
    obtain ⟨ls, lsr, ls', h1, h2, h3, h4⟩ := h
    exact ⟨ls, ls', h1, h3, h4.trans (hR h2)⟩
  · rw [if_neg (by decide), if_pos rfl] at h ⊢
    obtain ⟨hp, ls, lsr, ls', h1, h2, h3, h4⟩ := h
    exact ⟨hp, ls, ls', h1, h3, h4.trans (hR h2)⟩
  · rw [if_neg (by decide), if_neg (by decide), if_pos rfl] at h ⊢
    obtain ⟨l1, l2, l1r, l2r, l1', l2', e1, e1', h1, h2, r1, r2, h3, h4, c1, c2, hm⟩ := h
    exact ⟨l1, l2, l1', l2', e1, e1', h1, h2, h3, h4, c1.trans (hR r1), c2.trans (hR r2), hm⟩
  · rwa [if_neg h1, if_neg h2, if_neg h3] at h ⊢

theorem RecRen.ci {R : List (List UInt8) → List (List UInt8) → Prop} (hR : ∀ {a b}, R a b → lsCi b a) {u B : Bytes}
    {r r' : RecPos} (h : RecRen R u r B r') : RecCi u r B r' := by
  obtain ⟨owner, ownr, owner', h1, h2, h3, h4, h5, h6⟩ := h
  exact ⟨owner, owner', h1, h3, h4.trans (hR h2), h5, h6.ci hR⟩

theorem Renamed.of_nil {src tgt l' : List (List UInt8)} {sfx : Bool} (h : Renamed src tgt sfx [] l') (hs : src ≠ []) :
    l' = [] := by
  generalize hnil : ([] : List (List UInt8)) = e at h
  cases h with
  | hit a b hci _ =>
    have := List.append_eq_nil_iff.1 hnil.symm
    obtain ⟨_, hb⟩ := this
    subst hb
    cases src with
    | nil => exact absurd rfl hs
    | cons _ _ => simp [lsCi] at hci
  | miss _ _ => rfl

theorem rename_rdata {pp : PP} {c : Cursor} {src tgt : List (List UInt8)} (hs : ArgName src) (ht : ArgName tgt) (sfx : Bool)
    {dict dict1 : SuffixDict} {out O1 : Bytes} {off ne t l : Nat} (hoff : c.offset = some off) (hne : c.nameEnd = ne)
    (hown : copyWithReplacedName out pp.packet off dict (encLabels tgt ++ [0]) (encLabels src ++ [0]) sfx = .ok (dict1, O1))
    (hd1 : DictInv dict1 O1) (hty : c.rrType pp.packet = .ok t) (hlen : c.rrRdlen pp.packet = .ok l)
    (hl : l = get16 pp.packet (ne + 8)) (hfit : ne + 10 + l ≤ pp.packet.length)
    (hbody : if t = 41 then ∃ n, OptionsTile pp.packet (ne + 10) (ne + 10 + l) n else RDataOK pp.packet t l (ne + 10)) :
    (∃ (dict' : SuffixDict) (rd : Bytes),
      renameResponseItem pp (encLabels tgt ++ [0]) (encLabels src ++ [0]) sfx (dict, out) c =
        .ok (dict', O1 ++ ((pp.packet.drop ne).take 8 ++ put16 rd.length) ++ rd) ∧
      rd.length < 65536 ∧ DictInv dict' (O1 ++ ((pp.packet.drop ne).take 8 ++ put16 rd.length) ++ rd) ∧
      ∀ tl B : Bytes, B = O1 ++ ((pp.packet.drop ne).take 8 ++ put16 rd.length) ++ rd ++ tl →
        (if t = 41 then ∃ n, OptionsTile B (O1.length + 10) (O1.length + 10 + rd.length) n
          else RDataOK B t rd.length (O1.length + 10)) ∧
        RdRen (Renamed src tgt sfx) pp.packet B t l (ne + 10) rd.length (O1.length + 10)) ∨
    (renameResponseItem pp (encLabels tgt ++ [0]) (encLabels src ++ [0]) sfx (dict, out) c = .err .invalidName ∧
      ∃ o e ls lsr, ne + 10 ≤ o ∧ o < ne + 10 + l ∧ ValidName pp.packet o ls e ∧ Renamed src tgt sfx ls lsr ∧ 255 < wireLen lsr) := by
  have h10 : ne + 10 ≤ pp.packet.length := by omega
  have hh : ((pp.packet.drop ne).take 10).length = 10 := length_take_drop h10
  have hA : ∀ n : Nat, (O1 ++ ((pp.packet.drop ne).take 8 ++ put16 n)).length = O1.length + 10 := by
    intro n
    rw [List.length_append, List.length_append, length_take_drop (by omega)]
    rfl
  have hsmall : decide (pp.packet.length < ne + 10) = false := decide_eq_false (by omega)
  -- the call is unfolded once, into `hX`; each case runs `hX` forward with what `copyReplaced_spec` gives for its names
  generalize hX : renameResponseItem pp (encLabels tgt ++ [0]) (encLabels src ++ [0]) sfx (dict, out) c = X
  unfold renameResponseItem at hX
  simp only [hoff, hne, unwrap, bind_ok, hown, failIf, DNS_RR_HEADER_SIZE, DNS_RR_RDLEN_OFFSET, hsmall, Bool.false_eq_true,
    if_false, slice_add h10, hty, hlen, TYPE_NS, TYPE_CNAME, TYPE_PTR, TYPE_MX, TYPE_SOA, Bool.or_eq_true, beq_iff_eq,
    or_assoc] at hX
  -- the four classes of records: one name (NS, CNAME, PTR); MX; SOA; no name
  rcases rdClass t with hns | rfl | rfl | ⟨hns, hmx, hsoa⟩
  · have h41 : t ≠ 41 := by omega
    rw [if_pos hns] at hX
    rw [if_neg h41, RDataOK.name_iff hns] at hbody
    obtain ⟨_, ls, hvn⟩ := hbody
    obtain ⟨lsr, hren, ⟨hwn, dict2, em, hgen, hpos, hle, hall⟩ | ⟨hbig, herr⟩⟩ := copyReplaced_spec hvn hs ht sfx dict1
      (O1.length + 10) (O1 ++ (pp.packet.drop ne).take 10) (by rw [List.length_append, hh]) (hd1.append _)
    · left
      have hlt : em.length < 65536 := by rw [wireLen_eq] at hwn; omega
      -- the length is patched in after the name is written: `hgen` is used at the output the code passes, `hall` at the
      -- output with the final length bytes, both of the same length
      obtain ⟨hd2, ls', hci, hval⟩ := hall _ (hA em.length) (hd1.append _)
      rw [hgen _ (by rw [List.length_append, hh])] at hX
      have e : sub (O1 ++ (pp.packet.drop ne).take 10 ++ em).length O1.length = .ok (10 + em.length) :=
        sub_eq (by rw [List.length_append, List.length_append, hh, Nat.add_assoc])
      simp only [bind_ok, e, sub_eq (rfl : 10 + em.length = _), patch16_header h10 O1 em hlt, pure_eq] at hX
      subst hX
      refine ⟨dict2, em, rfl, hlt, hd2, fun tl B hB => ⟨?_, ?_⟩⟩
      · rw [if_neg h41, RDataOK.name_iff hns]
        exact ⟨Nat.ne_of_gt hpos, ls', hB ▸ hval tl⟩
      · rw [RdRen, if_pos hns]
        exact ⟨ls, lsr, ls', hvn, hren, hB ▸ hval tl, hci⟩
    · right
      rw [herr] at hX
      subst hX
      exact ⟨rfl, ne + 10, _, ls, lsr, Nat.le_refl _, by omega, hvn, hren, hbig⟩
  · rw [if_neg (by decide), RDataOK.mx_iff] at hbody
    obtain ⟨hl2, ls, hvn⟩ := hbody
    rw [if_neg (by decide), if_pos rfl, slice_add (by omega)] at hX
    simp only [bind_ok] at hX
    generalize hpref : (pp.packet.drop (ne + 10)).take 2 = pref at hX
    have hp : pref.length = 2 := hpref ▸ length_take_drop (by omega)
    obtain ⟨lsr, hren, ⟨hwn, dict2, em, hgen, hpos, hle, hall⟩ | ⟨hbig, herr⟩⟩ := copyReplaced_spec hvn hs ht sfx dict1
      (O1.length + 10 + 2) (O1 ++ (pp.packet.drop ne).take 10 ++ pref)
      (by rw [List.length_append, List.length_append, hh, hp]) ((hd1.append _).append _)
    · left
      have hrd : (pref ++ em).length = 2 + em.length := by rw [List.length_append, hp]
      have hlt : (pref ++ em).length < 65536 := by rw [wireLen_eq] at hwn; omega
      obtain ⟨hd2, ls', hci, hval⟩ := hall (O1 ++ ((pp.packet.drop ne).take 8 ++ put16 (pref ++ em).length) ++ pref)
        (by rw [List.length_append, hA, hp]) ((hd1.append _).append _)
      have e : sub (2 + (O1 ++ (pp.packet.drop ne).take 10 ++ pref ++ em).length)
          (O1 ++ (pp.packet.drop ne).take 10 ++ pref).length = .ok (pref ++ em).length :=
        sub_eq (by rw [hrd, List.length_append (bs := em)]; omega)
      rw [hgen _ (by rw [List.length_append, List.length_append, hh, hp])] at hX
      simp only [bind_ok, e] at hX
      rw [List.append_assoc _ _ em, patch16_header h10 O1 _ hlt] at hX
      subst hX
      rw [List.append_assoc _ _ em] at hd2 hval
      rw [show O1.length + 10 + 2 + em.length = O1.length + 10 + (pref ++ em).length by rw [hrd, Nat.add_assoc]] at hval
      refine ⟨dict2, _, rfl, hlt, hd2, fun tl B hB => ⟨?_, ?_⟩⟩
      · rw [if_neg (by decide), RDataOK.mx_iff]
        exact ⟨by omega, ls', hB ▸ hval tl⟩
      · rw [RdRen, if_neg (by decide), if_pos rfl, hpref]
        refine ⟨?_, ls, lsr, ls', hvn, hren, hB ▸ hval tl, hci⟩
        exact window_at (B := em ++ tl) (by rw [hB]; simp only [List.append_assoc]) (hA (pref ++ em).length) hp
    · right
      rw [herr] at hX
      subst hX
      exact ⟨rfl, ne + 10 + 2, _, ls, lsr, Nat.le_add_right _ _, by omega, hvn, hren, hbig⟩
  · rw [if_neg (by decide), RDataOK.soa_iff] at hbody
    obtain ⟨_, e1, e2, ⟨l1, hv1⟩, ⟨l2, hv2⟩, he2⟩ := hbody
    obtain ⟨k1, rfl⟩ := Nat.exists_eq_add_of_le (Nat.le_of_lt hv1.2.1.lt)
    obtain ⟨k2, rfl⟩ := Nat.exists_eq_add_of_le (Nat.le_of_lt hv2.2.1.lt)
    have hr1 : rawNameLen (pp.packet.drop (ne + 10)) = .ok k1 := by
      have := rawNameLen_nameAt hv1.2.1 h10
      rwa [Nat.add_sub_cancel_left] at this
    have hr2 : rawNameLen (pp.packet.drop (ne + 10 + k1)) = .ok k2 := by
      have := rawNameLen_nameAt hv2.2.1 (Nat.le_of_lt hv2.1)
      rwa [Nat.add_sub_cancel_left] at this
    have hfit2 : ne + 10 + k1 + k2 + 20 ≤ pp.packet.length := he2 ▸ hfit
    rw [if_neg (by decide), if_neg (by decide), if_pos rfl] at hX
    simp only [sliceFrom_ok h10, bind_ok, hr1] at hX
    obtain ⟨l1r, hren1, ⟨hw1, dict2, em1, hgen1, hpos1, hle1, hall1⟩ | ⟨hbig, herr⟩⟩ := copyReplaced_spec hv1 hs ht sfx dict1
      (O1.length + 10) (O1 ++ (pp.packet.drop ne).take 10) (by rw [List.length_append, hh]) (hd1.append _)
    · rw [hgen1 _ (by rw [List.length_append, hh])] at hX
      simp only [bind_ok, sliceFrom_ok (Nat.le_of_lt hv2.1), hr2, slice_add hfit2] at hX
      generalize hmeta : (pp.packet.drop (ne + 10 + k1 + k2)).take 20 = m at hX
      have hm : m.length = 20 := hmeta ▸ length_take_drop hfit2
      obtain ⟨l2r, hren2, ⟨hw2, dict3, em2, hgen2, _, hle2, hall2⟩ | ⟨hbig, herr⟩⟩ := copyReplaced_spec hv2 hs ht sfx dict2
        (O1.length + 10 + em1.length) (O1 ++ (pp.packet.drop ne).take 10 ++ em1) (by rw [List.length_append, List.length_append, hh])
        (hall1 _ (by rw [List.length_append, hh]) (hd1.append _)).1
      · left
        have hrd : (em1 ++ em2 ++ m).length = em1.length + em2.length + 20 := by
          rw [List.length_append, List.length_append, hm]
        have hlt : (em1 ++ em2 ++ m).length < 65536 := by rw [wireLen_eq] at hw1 hw2; omega
        obtain ⟨hd2, l1', hci1, hval1⟩ := hall1 _ (hA (em1 ++ em2 ++ m).length) (hd1.append _)
        obtain ⟨hd3, l2', hci2, hval2⟩ := hall2 _ (by rw [List.length_append, hA]) hd2
        rw [hgen2 _ (by rw [List.length_append, List.length_append, hh])] at hX
        have e : sub (O1 ++ (pp.packet.drop ne).take 10 ++ em1 ++ em2 ++ m).length (O1 ++ (pp.packet.drop ne).take 10).length =
            .ok (em1 ++ em2 ++ m).length :=
          sub_eq (by simp only [List.length_append, Nat.add_assoc])
        simp only [bind_ok, e] at hX
        rw [List.append_assoc _ em1, List.append_assoc _ (em1 ++ em2), patch16_header h10 O1 _ hlt] at hX
        subst hX
        have hend : O1.length + 10 + (em1 ++ em2 ++ m).length - 20 = O1.length + 10 + em1.length + em2.length :=
          Nat.sub_eq_of_eq_add (by rw [hrd]; simp only [Nat.add_assoc])
        refine ⟨dict3, _, rfl, hlt, ?_, fun tl B hB => ?_⟩
        · simpa only [List.append_assoc] using hd3.append m
        · have v1 : ValidName B (O1.length + 10) l1' (O1.length + 10 + em1.length) := by
            rw [hB]
            simpa only [List.append_assoc] using hval1 (em2 ++ m ++ tl)
          have v2 : ValidName B (O1.length + 10 + em1.length) l2' (O1.length + 10 + em1.length + em2.length) := by
            rw [hB]
            simpa only [List.append_assoc] using hval2 (m ++ tl)
          refine ⟨?_, ?_⟩
          · rw [if_neg (by decide), RDataOK.soa_iff]
            exact ⟨by omega, _, _, ⟨l1', v1⟩, ⟨l2', v2⟩, by rw [hrd]; simp only [Nat.add_assoc]⟩
          · rw [RdRen, if_neg (by decide), if_neg (by decide), if_pos rfl, hend, Nat.sub_eq_of_eq_add he2.symm, hmeta]
            refine ⟨l1, l2, l1r, l2r, l1', l2', _, _, hv1, hv2, hren1, hren2, v1, v2, hci1, hci2, ?_⟩
            exact window_at (A := O1 ++ ((pp.packet.drop ne).take 8 ++ put16 (em1 ++ em2 ++ m).length) ++ em1 ++ em2) (B := tl)
              (by rw [hB]; simp only [List.append_assoc]) (by rw [List.length_append, List.length_append, hA]) hm
      · right
        rw [herr] at hX
        subst hX
        exact ⟨rfl, _, _, l2, l2r, Nat.le_add_right _ _, by omega, hv2, hren2, hbig⟩
    · right
      rw [herr] at hX
      subst hX
      exact ⟨rfl, _, _, l1, l1r, Nat.le_refl _, by omega, hv1, hren1, hbig⟩
  · left
    rw [if_neg hns, if_neg hmx, if_neg hsoa, Nat.add_assoc, slice_add (Nat.add_assoc _ _ _ ▸ hfit)] at hX
    simp only [bind_ok, pure_eq, List.drop_take, List.drop_drop, Nat.add_sub_cancel_left] at hX
    have hrl : ((pp.packet.drop (ne + 10)).take l).length = l := length_take_drop hfit
    have hlt : l < 65536 := hl ▸ get16_lt _ _
    rw [take10_split h10, ← hl] at hX
    subst hX
    refine ⟨dict1, (pp.packet.drop (ne + 10)).take l, by rw [hrl], by rw [hrl]; exact hlt, (hd1.append _).append _,
      fun tl B hB => ?_⟩
    rw [hrl] at hB ⊢
    obtain ⟨_, hb, _⟩ := rdcanon_placed hfit hlt hbody ((RdCanon.verbatim_iff hns hmx hsoa).2 rfl) hB
    rw [hA, hrl] at hb
    rw [RdRen, if_neg hns, if_neg hmx, if_neg hsoa]
    exact ⟨hb, rfl, window_at hB.symm (hA l) hrl⟩

theorem rename_record {pp : PP} {sec : Section} {r : RecPos} {ob oa : Bool} {src tgt : List (List UInt8)}
    (hr : RRAtPos pp.packet sec r ob oa) (c : Cursor) (hc : posOf c = some r) (hs : ArgName src) (ht : ArgName tgt)
    (sfx : Bool) (dict : SuffixDict) (out : Bytes) (hinv : DictInv dict out) :
    (∃ (dict' : SuffixDict) (piece : Bytes),
      renameResponseItem pp (encLabels tgt ++ [0]) (encLabels src ++ [0]) sfx (dict, out) c = .ok (dict', out ++ piece) ∧
      DictInv dict' (out ++ piece) ∧
      ∀ tl : Bytes, ∃ ne', RRAtPos (out ++ piece ++ tl) sec ⟨out.length, ne', out.length + piece.length⟩ ob oa ∧
        get16 (out ++ piece ++ tl) ne' = get16 pp.packet r.ne ∧
        RecRen (Renamed src tgt sfx) pp.packet r (out ++ piece ++ tl) ⟨out.length, ne', out.length + piece.length⟩) ∨
    (renameResponseItem pp (encLabels tgt ++ [0]) (encLabels src ++ [0]) sfx (dict, out) c = .err .invalidName ∧
      RecOverflow (Renamed src tgt sfx) pp.packet r) := by
  obtain ⟨owner, hvo, _, _, hty, _, _, hlen⟩ := C03.accessors hr c hc
  obtain ⟨ho, hne, _⟩ := posOf_eq_some.1 hc
  have ⟨_, h10, hnext, hfit, hbody⟩ := hr
  have hspan := hvo.2.1.lt
  obtain ⟨ownr, hreno, ⟨_, dict1, cname, hgen1, _, hle1, hall1⟩ | ⟨hbig, herr⟩⟩ :=
    copyReplaced_spec hvo hs ht sfx dict out.length out rfl hinv
  · obtain ⟨hd1, owner', hcio, hval1⟩ := hall1 out rfl hinv
    rcases rename_rdata hs ht sfx ho hne (hgen1 out rfl) hd1 hty hlen rfl (by omega) hr.body with
      ⟨dict', rd, hrun, hlt, hd', hall⟩ | ⟨herr, o', e, ls, lsr, h1, h2, hv, hren, hbig⟩
    · left
      refine ⟨dict', cname ++ ((pp.packet.drop r.ne).take 8 ++ put16 rd.length) ++ rd, ?_, ?_, fun tl => ?_⟩
      · rw [hrun]; simp only [List.append_assoc]
      · simpa only [List.append_assoc] using hd'
      · have hB : out ++ (cname ++ ((pp.packet.drop r.ne).take 8 ++ put16 rd.length) ++ rd) ++ tl =
            out ++ cname ++ ((pp.packet.drop r.ne).take 8 ++ put16 rd.length) ++ rd ++ tl := by simp only [List.append_assoc]
        obtain ⟨hb, hrd⟩ := hall tl _ hB
        rw [List.length_append] at hb hrd
        have hpl : out.length + (cname ++ ((pp.packet.drop r.ne).take 8 ++ put16 rd.length) ++ rd).length =
            out.length + cname.length + 10 + rd.length := by
          simp only [List.length_append, length_take_drop (show r.ne + 8 ≤ pp.packet.length by omega), put16,
            List.length_cons, List.length_nil]
          omega
        rw [hpl]
        refine ⟨_, record_frame hr hvo hreno hcio hB ?_ ?_ hlt hb hrd⟩
        · simpa only [List.append_assoc] using hval1 (((pp.packet.drop r.ne).take 8 ++ put16 rd.length) ++ rd ++ tl)
        · intro h41
          rw [if_pos h41] at hbody
          have : owner = [] := owner_nil (hbody.2.1 ▸ hvo)
          subst this
          have : ownr = [] := hreno.of_nil hs.ne
          subst this
          have : labSum ([] : List (List UInt8)) = 0 := rfl
          omega
    · right
      exact ⟨herr, o', e, ls, lsr, by omega, by omega, hv, hren, hbig⟩
  · right
    refine ⟨?_, r.off, r.ne, owner, ownr, Nat.le_refl _, by omega, hvo, hreno, hbig⟩
    unfold renameResponseItem
    simp only [ho, unwrap, bind_ok, herr, bind_err]

end Dns
