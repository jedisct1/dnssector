/-
  Forgetting the step counter of the instrumented validator gives back the validator: `(parseI p).res = parse p`;
  and each name walk costs at most its fuel.
-/
import DnsModel.Steps
namespace Dns
open Cnt

namespace Cnt

@[simp] theorem res_bind {α β} (x : Cnt α) (f : α → Cnt β) : (x >>= f).res = (x.res >>= fun a => (f a).res) := by
  show (Cnt.bind x f).res = _
  unfold Cnt.bind
  cases h : x.res <;> simp

@[simp] theorem res_lift {α} (r : Res α) : (lift r).res = r := rfl

@[simp] theorem res_tick : tick.res = .ok () := rfl

@[simp] theorem res_pure {α} (a : α) : (pure a : Cnt α).res = .ok a := rfl

@[simp] theorem steps_lift {α} (r : Res α) : (lift r).steps = 0 := rfl

@[simp] theorem steps_pure {α} (a : α) : (pure a : Cnt α).steps = 0 := rfl

@[simp] theorem steps_tick : tick.steps = 1 := rfl

theorem steps_bind {α β} (x : Cnt α) (f : α → Cnt β) :
    (x >>= f).steps = x.steps + (match x.res with | .ok a => (f a).steps | _ => 0) := by
  show (Cnt.bind x f).steps = _
  unfold Cnt.bind
  cases h : x.res <;> simp

theorem steps_bind_le {α β} (x : Cnt α) (f : α → Cnt β) (n m : Nat)
    (h1 : x.steps ≤ n) (h2 : ∀ a, x.res = .ok a → (f a).steps ≤ m) : (x >>= f).steps ≤ n + m := by
  rw [steps_bind]
  cases h : x.res with
  | ok a => have := h2 a h; simp; omega
  | err e => simp; omega
  | panic => simp; omega
  | diverge => simp; omega

theorem bind_ok_decomp {α β} {x : Cnt α} {f : α → Cnt β} {b : β} (h : (x >>= f).res = .ok b) :
    ∃ a, x.res = .ok a ∧ (f a).res = .ok b ∧ (x >>= f).steps = x.steps + (f a).steps := by
  rw [res_bind] at h
  obtain ⟨a, ha, hb⟩ := Res.bind_eq_ok.1 h
  exact ⟨a, ha, hb, by rw [steps_bind, ha]⟩

theorem steps_lift_bind_le {α β} (r : Res α) (f : α → Cnt β) (m : Nat)
    (h : ∀ a, r = .ok a → (f a).steps ≤ m) : (lift r >>= f).steps ≤ m :=
  Nat.zero_add m ▸ steps_bind_le (lift r) f 0 m (Nat.le_refl 0) h

theorem steps_ite_le {α} {c : Prop} [Decidable c] {x y : Cnt α} {n : Nat} (hx : x.steps ≤ n) (hy : y.steps ≤ n) :
    (if c then x else y).steps ≤ n := by
  split
  · exact hx
  · exact hy

theorem of_guard {α} {c : Prop} [Decidable c] {r y : Res α} {x : Cnt α} {n : Nat}
    (h : ¬ c → ∃ k ≤ n + 1, x = ⟨y, k⟩) : ∃ k ≤ n + 1, (if c then ⟨r, 1⟩ else x) = ⟨if c then r else y, k⟩ := by
  split
  · exact ⟨1, Nat.succ_le_succ (Nat.zero_le n), rfl⟩
  · exact h ‹_›

end Cnt

theorem ccnLoopI_eq (p : Bytes) (fuel : Nat) (s : NW) : ∃ k ≤ fuel, ccnLoopI p fuel s = ⟨ccnLoop p fuel s, k⟩ := by
  induction fuel generalizing s with
  | zero => exact ⟨0, Nat.le_refl 0, rfl⟩
  | succ n ih =>
    have one (r : Res Nat) : ∃ k ≤ n + 1, (⟨r, 1⟩ : Cnt Nat) = ⟨r, k⟩ := ⟨1, Nat.succ_le_succ (Nat.zero_le n), rfl⟩
    have next (s' : NW) : ∃ k ≤ n + 1, (⟨(ccnLoopI p n s').res, (ccnLoopI p n s').steps + 1⟩ : Cnt Nat) = ⟨ccnLoop p n s', k⟩ := by
      obtain ⟨k, hk, e⟩ := ih s'
      exact ⟨k + 1, Nat.succ_le_succ hk, by rw [e]⟩
    rw [ccnLoopI, ccnLoop]
    refine of_guard fun _ => ?_
    cases idx p s.offset with
    | ok len =>
      by_cases h1 : isPtr len = true
      · simp only [if_pos h1]
        refine of_guard fun _ => of_guard fun _ => ?_
        cases idx p (s.offset + 1) with
        | ok lo =>
          refine of_guard fun _ => ?_
          cases idx p (((len &&& 0x3f) <<< 8) ||| lo) with
          | ok t => exact of_guard fun _ => next _
          | _ => exact one _
        | _ => exact one _
      · simp only [if_neg h1]
        refine of_guard fun _ => of_guard fun _ => of_guard fun _ => ?_
        cases labelHasBadChar p s.offset len with
        | ok b =>
          cases b with
          | true => exact one _
          | false => exact of_guard fun _ => next _
        | _ => exact one _
    | _ => exact one _

theorem checkCompressedNameI_res (p : Bytes) (off : Nat) : (checkCompressedNameI p off).res = checkCompressedName p off := by
  unfold checkCompressedNameI checkCompressedName
  split
  · rfl
  · obtain ⟨_, _, e⟩ := ccnLoopI_eq p nameFuel _
    rw [e]

theorem checkCompressedNameI_steps (p : Bytes) (off : Nat) : (checkCompressedNameI p off).steps ≤ nameFuel := by
  unfold checkCompressedNameI
  split
  · exact Nat.zero_le _
  · obtain ⟨_, hk, e⟩ := ccnLoopI_eq p nameFuel _
    rw [e]; exact hk

theorem cunLoopI_eq (p : Bytes) (fuel off nl : Nat) : ∃ k ≤ fuel, cunLoopI p fuel off nl = ⟨cunLoop p fuel off nl, k⟩ := by
  induction fuel generalizing off nl with
  | zero => exact ⟨0, Nat.le_refl 0, rfl⟩
  | succ n ih =>
    rw [cunLoopI, cunLoop]
    refine of_guard fun _ => ?_
    cases idx p off with
    | ok len =>
      refine of_guard fun _ => of_guard fun _ => of_guard fun _ => of_guard fun _ => of_guard fun _ => ?_
      obtain ⟨k, hk, e⟩ := ih (off + len + 1) (nl + len + 1)
      exact ⟨k + 1, Nat.succ_le_succ hk, by rw [e]⟩
    | _ => exact ⟨1, Nat.succ_le_succ (Nat.zero_le n), rfl⟩

theorem checkUncompressedNameI_res (p : Bytes) (off : Nat) :
    (checkUncompressedNameI p off).res = checkUncompressedName p off := by
  unfold checkUncompressedNameI checkUncompressedName
  split
  · rfl
  · obtain ⟨_, _, e⟩ := cunLoopI_eq p nameFuel off 0
    rw [e]

theorem checkUncompressedNameI_steps (p : Bytes) (off : Nat) : (checkUncompressedNameI p off).steps ≤ nameFuel := by
  unfold checkUncompressedNameI
  split
  · exact Nat.zero_le _
  · obtain ⟨_, hk, e⟩ := cunLoopI_eq p nameFuel off 0
    rw [e]; exact hk

open Sector

theorem skipNameI_res (p : Bytes) (s : Sector) : (SectorI.skipName p s).res = Sector.skipName p s := by
  simp only [SectorI.skipName, Sector.skipName, res_bind, res_lift, res_pure, checkCompressedNameI_res]
  rfl

theorem parseQuestionI_res (p : Bytes) (s : Sector) : (SectorI.parseQuestion p s).res = Sector.parseQuestion p s := by
  simp only [SectorI.parseQuestion, Sector.parseQuestion, res_bind, res_lift, res_pure, skipNameI_res]
  rfl

theorem optLoopI_res (p : Bytes) (fuel : Nat) (s : Sector) : (SectorI.optLoop p fuel s).res = Sector.optLoop p fuel s := by
  induction fuel generalizing s with
  | zero => rfl
  | succ n ih =>
    simp only [SectorI.optLoop, Sector.optLoop, SectorI.ednsSkipRr, res_bind, res_lift, res_tick, res_pure, Res.bind_ok,
      apply_ite Cnt.res, ih]
    rfl

theorem parseOptI_res (p : Bytes) (s : Sector) : (SectorI.parseOpt p s).res = Sector.parseOpt p s := by
  simp only [SectorI.parseOpt, Sector.parseOpt, res_bind, res_lift, optLoopI_res]

theorem parseRRI_res (p : Bytes) (s : Sector) (sec : Section) : (SectorI.parseRR p s sec).res = Sector.parseRR p s sec := by
  simp only [SectorI.parseRR, SectorI.rrBody, Sector.parseRR, res_bind, res_tick, res_lift, res_pure, Res.bind_ok,
    apply_ite Cnt.res, skipNameI_res, parseOptI_res, checkCompressedNameI_res, checkUncompressedNameI_res]
  rfl

theorem parseRRsI_res (p : Bytes) (sec : Section) (n : Nat) (s : Sector) :
    (SectorI.parseRRs p sec n s).res = Sector.parseRRs p sec n s := by
  induction n generalizing s with
  | zero => rfl
  | succ k ih => simp only [SectorI.parseRRs, Sector.parseRRs, res_bind, parseRRI_res, ih]

theorem parseI_res (p : Bytes) : (parseI p).res = parse p := by
  simp only [parseI, parse, res_bind, res_lift, res_pure, parseQuestionI_res, parseRRsI_res]
  rfl

end Dns
