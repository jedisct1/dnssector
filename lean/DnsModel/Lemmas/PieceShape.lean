/-
  What a record piece looks like from the inside: literal owner name, eight fixed
  bytes, data length, pointer-free data of the right shape (`piece_shape`) — and back (`piece_of_shape`).
-/
import DnsModel.Lemmas.SectionView
namespace Dns
open Res

theorem rdPlainI_of_canon {p : Bytes} {t l rs : Nat} {rd : Bytes} (hfit : rs + l ≤ p.length) (hl : l < 65536) (h41 : t ≠ 41)
    (hbody : RDataOK p t l rs) (hrd : RdCanon p t l rs rd) : rd.length < 65536 ∧ RdPlainI t rd := by
  have hb : (if t = 41 then ∃ n, OptionsTile p rs (rs + l) n else RDataOK p t l rs) := by simp only [h41, if_false]; exact hbody
  obtain ⟨hlt, hok, hcan⟩ := rdcanon_placed (A := []) (B := []) (u := rd) hfit hl hb hrd (by simp)
  simp only [h41, if_false, List.length_nil] at hok
  simp only [List.length_nil] at hcan
  refine ⟨hlt, ?_⟩
  rcases rdClass t with ht | rfl | rfl | ⟨h1, h2, h3⟩
  · obtain ⟨ls, hv, he⟩ := (RdCanon.name_iff ht).1 hcan
    rw [RdPlainI, if_pos ht]
    exact ⟨ls, validName_ok hv, he⟩
  · obtain ⟨ls, hv, he⟩ := RdCanon.mx_iff.1 hcan
    have := (RDataOK.mx_iff.1 hok).1
    rw [RdPlainI, if_neg (by decide), if_pos rfl]
    exact ⟨(rd.drop 0).take 2, ls, by rw [List.drop_zero, List.length_take]; omega, validName_ok hv, he⟩
  · obtain ⟨l1, l2, e1, hv1, hv2, he⟩ := RdCanon.soa_iff.1 hcan
    have := (RDataOK.soa_iff.1 hok).1
    rw [RdPlainI, if_neg (by decide), if_neg (by decide), if_pos rfl]
    exact ⟨l1, l2, (rd.drop (0 + rd.length - 20)).take 20, validName_ok hv1, validName_ok hv2,
      by rw [List.length_take, List.length_drop]; omega, he⟩
  · rw [RDataOK.verbatim_iff h1 h2 h3] at hok
    rw [RdPlainI, if_neg h1, if_neg h2, if_neg h3]
    by_cases h39 : t = 39
    · rw [if_pos h39] at hok ⊢
      exact ⟨fun h => hok.1 (by rw [h]; rfl), by simpa using hok.2⟩
    · rw [if_neg h39] at hok ⊢
      exact hok

theorem piece_shape {sec : Section} {rc : Bytes} {ob oa : Bool} (h : PieceOK sec rc ob oa) :
    ∃ (owner : List (List UInt8)) (f8 rd : Bytes),
      rc = (encLabels owner ++ [0]) ++ f8 ++ put16 rd.length ++ rd ∧ GoodLabels owner ∧ f8.length = 8 ∧ rd.length < 65536 ∧
      (get16 f8 0 ≠ 41 → RdPlainI (get16 f8 0) rd ∧ oa = ob) ∧
      (get16 f8 0 = 41 → owner = [] ∧ ob = false ∧ oa = true) := by
  obtain ⟨p0, r0, hr, hc⟩ := h
  obtain ⟨owner, rd, hvo, hrd, hrc⟩ := hc
  obtain ⟨hne, h10, hnext, hfit, hbody⟩ := hr
  have hf8 : ((p0.drop r0.ne).take 8).length = 8 := length_take_drop (by omega)
  have hty : get16 ((p0.drop r0.ne).take 8) 0 = get16 p0 r0.ne := by
    have := (agree_window p0 r0.ne 8).get16 (i := 0) (by omega)
    rwa [Nat.add_zero, Nat.add_zero] at this
  have hl : get16 p0 (r0.ne + 8) < 65536 := get16_lt _ _
  by_cases h41 : get16 p0 r0.ne = 41
  · simp only [h41, if_true] at hbody
    obtain ⟨_, hne1, hob, hoa, n, htile⟩ := hbody
    have hb : (if get16 p0 r0.ne = 41 then ∃ n, OptionsTile p0 (r0.ne + 10) (r0.ne + 10 + get16 p0 (r0.ne + 8)) n
        else RDataOK p0 (get16 p0 r0.ne) (get16 p0 (r0.ne + 8)) (r0.ne + 10)) := by
      simp only [h41, if_true]; rw [← hnext]; exact ⟨n, htile⟩
    obtain ⟨hlt, _, _⟩ := rdcanon_placed (A := []) (B := []) (u := rd) (by omega) hl hb hrd (by simp)
    refine ⟨owner, _, rd, hrc, validName_ok hvo, hf8, hlt, ?_, ?_⟩
    · intro hne41
      rw [hty] at hne41
      exact absurd h41 hne41
    · intro _
      have : owner = [] := by
        rw [hne1] at hvo
        exact owner_nil hvo
      exact ⟨this, hob, hoa⟩
  · simp only [h41, if_false] at hbody
    obtain ⟨hlt, hpl⟩ := rdPlainI_of_canon (by omega) hl h41 hbody.1 hrd
    refine ⟨owner, _, rd, hrc, validName_ok hvo, hf8, hlt, ?_, ?_⟩
    · intro _
      rw [hty]
      exact ⟨hpl, hbody.2⟩
    · intro h
      rw [hty] at h
      exact absurd h h41

theorem piece_length (owner : List (List UInt8)) {f8 : Bytes} (hf8 : f8.length = 8) (n : Nat) (rd : Bytes) :
    ((encLabels owner ++ [0]) ++ f8 ++ put16 n ++ rd).length = labSum owner + 1 + 8 + 2 + rd.length := by
  rw [List.length_append, List.length_append, List.length_append, encLen_eq, hf8]
  rfl

theorem piece_of_shape (sec : Section) (owner : List (List UInt8)) (f8 rd : Bytes) (ho : GoodLabels owner) (hf8 : f8.length = 8)
    (hlt : rd.length < 65536) (h41 : get16 f8 0 ≠ 41) (hrd : RdPlainI (get16 f8 0) rd) (b : Bool) :
    PieceOK sec ((encLabels owner ++ [0]) ++ f8 ++ put16 rd.length ++ rd) b b := by
  obtain ⟨h1, h2, _⟩ := piece_standalone owner ho f8 rd hf8 hlt h41 hrd sec b
  exact ⟨_, _, h1, h2⟩

/-- the shape of one piece of a run, and the right to replace it by any other non-OPT piece -/
theorem pieces_shape_split {sec : Section} {ps1 ps2 : List Bytes} {rc : Bytes} {ob oe : Bool}
    (h : Pieces sec (ps1 ++ rc :: ps2) ob oe) :
    ∃ (owner : List (List UInt8)) (f8 rd : Bytes),
      rc = (encLabels owner ++ [0]) ++ f8 ++ put16 rd.length ++ rd ∧ GoodLabels owner ∧ f8.length = 8 ∧ rd.length < 65536 ∧
      (get16 f8 0 ≠ 41 → RdPlainI (get16 f8 0) rd ∧
        ∀ rc', (∀ b, PieceOK sec rc' b b) → Pieces sec (ps1 ++ rc' :: ps2) ob oe) := by
  obtain ⟨om, h1, h2⟩ := Pieces.split h
  cases h2 with
  | @cons _ _ _ om' _ hp hrest =>
    obtain ⟨owner, f8, rd, hrc, hgo, hf8, hlt, hnon, _⟩ := piece_shape hp
    refine ⟨owner, f8, rd, hrc, hgo, hf8, hlt, ?_⟩
    intro h41
    obtain ⟨hpl, hflag⟩ := hnon h41
    subst hflag
    exact ⟨hpl, fun rc' hok => h1.append (Pieces.cons (hok _) hrest)⟩

theorem PlainObj.ne_of_shape {pp : PP} (P : PlainObj pp) (sec : Section) (hs : sec.isRec = true) {ps1 ps2 : List Bytes} {rc : Bytes}
    (hsplit : P.lst sec = ps1 ++ rc :: ps2) (owner : List (List UInt8)) (rest : Bytes) (hrc : rc = (encLabels owner ++ [0]) ++ rest)
    (hgo : GoodLabels owner) {ne nx : Nat} {ob oa : Bool}
    (hr : RRAtPos pp.packet sec ⟨P.start sec + ps1.flatten.length, ne, nx⟩ ob oa) :
    ne = P.start sec + ps1.flatten.length + labSum owner + 1 := by
  obtain ⟨e, el⟩ := P.bytes_rec sec hs hsplit
  have e2 : pp.packet = (P.hdr ++ P.pre sec ++ ps1.flatten) ++ (encLabels owner ++ [0]) ++ (rest ++ (ps2.flatten ++ P.post sec)) := by
    rw [e, hrc]; simp only [List.append_assoc]
  -- the owner is written out at the record's start: its end is where the policy says
  have hv := validName_at e2 hgo.1 hgo.2.1 hgo.2.2
  rw [el] at hv
  exact nameEnds_functional hr.1 ⟨owner, hv⟩

theorem PlainObj.shape_at {pp : PP} (P : PlainObj pp) (sec : Section) (hs : sec.isRec = true) {ps1 ps2 : List Bytes} {rc : Bytes}
    (hsplit : P.lst sec = ps1 ++ rc :: ps2) {ne nx : Nat} {ob oa : Bool}
    (hr : RRAtPos pp.packet sec ⟨P.start sec + ps1.flatten.length, ne, nx⟩ ob oa) :
    ∃ (owner : List (List UInt8)) (f8 rd pre post : Bytes),
      pp.packet = pre ++ rc ++ post ∧ pre.length = P.start sec + ps1.flatten.length ∧
      rc = (encLabels owner ++ [0]) ++ f8 ++ put16 rd.length ++ rd ∧ GoodLabels owner ∧ f8.length = 8 ∧ rd.length < 65536 ∧
      (get16 f8 0 ≠ 41 → RdPlainI (get16 f8 0) rd ∧
        ∀ rc', (∀ b, PieceOK sec rc' b b) → Pieces sec (ps1 ++ rc' :: ps2) (P.fin sec) (P.fout sec)) ∧
      ne = pre.length + labSum owner + 1 ∧ get16 pp.packet ne = get16 f8 0 := by
  have hps := P.pieces sec hs
  rw [hsplit] at hps
  obtain ⟨owner, f8, rd, hrc, hgo, hf8, hlt, hnon⟩ := pieces_shape_split hps
  have hne := P.ne_of_shape sec hs hsplit owner (f8 ++ put16 rd.length ++ rd) (by rw [hrc]; simp only [List.append_assoc]) hgo hr
  obtain ⟨e, el⟩ := P.bytes_rec sec hs hsplit
  rw [← el] at hne
  generalize P.hdr ++ P.pre sec ++ ps1.flatten = pre at e el hne
  generalize ps2.flatten ++ P.post sec = post at e
  have e2 : pp.packet = (pre ++ (encLabels owner ++ [0])) ++ (f8 ++ (put16 rd.length ++ rd ++ post)) := by
    rw [e, hrc]; simp only [List.append_assoc]
  have hty := get16_append_right (pre ++ (encLabels owner ++ [0])) (f8 ++ (put16 rd.length ++ rd ++ post)) 0
  rw [← e2, List.length_append, encLen_eq, get16_append_left (by omega), Nat.add_zero, ← Nat.add_assoc, ← hne] at hty
  exact ⟨owner, f8, rd, pre, post, e, el, hrc, hgo, hf8, hlt, hnon, hne, hty⟩

end Dns
