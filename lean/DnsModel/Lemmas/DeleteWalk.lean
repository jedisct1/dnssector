/-
  Walking a record section and deleting on the way.  `delWalk_sim` is the one induction: if an
  invariant `Sim` between (object, cursor) and (list, index) is kept by a yield and by a deletion, `delWalk` does on
  the object what `absWalk` does on the list.  `delWalk_refines_of` instantiates it for a plain object (`PlainSim`) and
  any step function that `Walks`: the OPT-including walk (`delWalk_refines`), the public `next()` (`delWalkSkip_refines`).
-/
import DnsModel.Lemmas.SectionView
import DnsModel.Lemmas.AbsWalk
import DnsModel.Lemmas.EdnsOps
namespace Dns
open Res

theorem nextIncl_void_eq {pp : PP} (c : Cursor) (hc : c.offset = none) :
    nextIncludingOpt pp c =
      ((secInfo pp c.sec >>= fun r => if r.1 == 0 then pure none else
          unwrap r.2 >>= fun off => pure (some { c with rrsLeft := r.1, offsetNext := off })) >>= fun c? =>
        match c? with
        | none => pure none
        | some c => if c.rrsLeft == 0 then pure none else
            Cursor.land pp.packet { c with rrsLeft := c.rrsLeft - 1 } >>= fun c => pure (some c)) := by
  obtain ⟨sec, off, nx, ne, left⟩ := c
  simp only at hc
  subst hc
  cases sec <;> rfl

theorem nextIncl_live_eq {pp : PP} (c : Cursor) {o : Nat} (ho : c.offset = some o) :
    nextIncludingOpt pp c = if c.rrsLeft == 0 then pure none else
      Cursor.land pp.packet { c with rrsLeft := c.rrsLeft - 1 } >>= fun c => pure (some c) := by
  obtain ⟨sec, off, nx, ne, left⟩ := c
  simp only at ho
  subst ho
  rfl

/-- a void cursor restarts from the count and start the object holds for its section -/
theorem nextIncl_void {pp : PP} (c : Cursor) (hc : c.offset = none) {n first : Nat}
    (hi : secInfo pp c.sec = .ok (n, if n > 0 then some first else none)) :
    nextIncludingOpt pp c = nextIncludingOpt pp { c with offset := some 0, offsetNext := first, rrsLeft := n } := by
  rw [nextIncl_void_eq c hc, hi, bind_ok, nextIncl_live_eq _ rfl]
  by_cases hz : n = 0
  · subst hz; rfl
  · have hz' : (n == 0) = false := by simpa using hz
    simp only [hz', if_pos (Nat.pos_of_ne_zero hz), unwrap, Bool.false_eq_true, if_false, bind_ok, pure_eq]
    rw [land_indep pp.packet ⟨c.sec, c.offset, first, c.nameEnd, n - 1⟩ ⟨c.sec, some 0, first, c.nameEnd, n - 1⟩ rfl rfl rfl]

/-- `hcur`: the cursor stands before record `j` of `n`, which starts at `pos` (the shape `CurAt` and `CurAtFresh` share) -/
theorem next_before {pp : PP} {sec : Section} {c : Cursor} {j n first pos : Nat} (hsec : c.sec = sec)
    (hcur : (c.offset = none ∧ j = 0) ∨ ∃ o, c.offset = some o ∧ c.offsetNext = pos ∧ c.rrsLeft = n - j ∧ j ≤ n)
    (hi : secInfo pp sec = .ok (n, if n > 0 then some first else none)) (h0 : j = 0 → pos = first) :
    (¬ j < n → nextIncludingOpt pp c = .ok none) ∧
    (j < n → ∀ {r : RecPos} {ob oa : Bool}, RRAtPos pp.packet sec r ob oa → r.off = pos →
      nextIncludingOpt pp c = .ok (some ⟨sec, some r.off, r.next, r.ne, n - j - 1⟩)) := by
  subst hsec
  obtain ⟨c0, hsec0, ⟨o, ho⟩, hn0, hk0, hle, hc0⟩ : ∃ c0 : Cursor, c0.sec = c.sec ∧ (∃ o, c0.offset = some o) ∧
      c0.offsetNext = pos ∧ c0.rrsLeft = n - j ∧ j ≤ n ∧ nextIncludingOpt pp c = nextIncludingOpt pp c0 := by
    rcases hcur with ⟨hv, rfl⟩ | ⟨o, ho, hn, hk, hle⟩
    · exact ⟨{ c with offset := some 0, offsetNext := first, rrsLeft := n }, rfl, ⟨0, rfl⟩, (h0 rfl).symm, rfl,
        Nat.zero_le _, nextIncl_void c hv hi⟩
    · exact ⟨c, rfl, ⟨o, ho⟩, hn, hk, hle, rfl⟩
  rw [hc0]
  refine ⟨fun hj => nextIncl_done c0 o ho (by omega), fun hj r ob oa hr hoff => ?_⟩
  rw [nextIncl_live hr c0 o ho (hn0.trans hoff.symm) (n - j - 1) (by omega), hsec0]

theorem before_le {c : Cursor} {j n pos : Nat}
    (h : (c.offset = none ∧ j = 0) ∨ ∃ o, c.offset = some o ∧ c.offsetNext = pos ∧ c.rrsLeft = n - j ∧ j ≤ n) : j ≤ n := by
  rcases h with ⟨_, rfl⟩ | ⟨_, _, _, _, hle⟩
  · exact Nat.zero_le _
  · exact hle

/-- the cursor stands just before the `j`-th record of section `sec` (void: before the first) -/
def CurAt {pp : PP} (P : PlainObj pp) (sec : Section) (j : Nat) (c : Cursor) : Prop :=
  c.sec = sec ∧ ((c.offset = none ∧ j = 0) ∨
    (∃ o, c.offset = some o ∧ c.offsetNext = P.start sec + ((P.lst sec).take j).flatten.length ∧
      c.rrsLeft = (P.lst sec).length - j ∧ j ≤ (P.lst sec).length))

/-- the twin of `CurAt`: `next` takes "before `j`" to "on `j`", and "on `j`" is "before `j + 1`".  In the namespace of
C08, whose invariant speaks of it -/
def C08.CurOn {pp : PP} (P : PlainObj pp) (sec : Section) (j : Nat) (c : Cursor) : Prop :=
  ∃ (hj : j < (P.lst sec).length) (ob oa : Bool), c.sec = sec ∧
    c.offset = some (P.start sec + ((P.lst sec).take j).flatten.length) ∧
    c.offsetNext = P.start sec + ((P.lst sec).take j).flatten.length + ((P.lst sec)[j]).length ∧
    c.rrsLeft = (P.lst sec).length - j - 1 ∧
    RRAtPos pp.packet sec ⟨P.start sec + ((P.lst sec).take j).flatten.length, c.nameEnd,
      P.start sec + ((P.lst sec).take j).flatten.length + ((P.lst sec)[j]).length⟩ ob oa

theorem split_at {α} (xs : List α) (j : Nat) (h : j < xs.length) : xs = xs.take j ++ xs[j] :: xs.drop (j + 1) := by
  rw [List.getElem_cons_drop, List.take_append_drop]

theorem next_some {pp : PP} (P : PlainObj pp) (sec : Section) (hs : sec.isRec = true) (j : Nat) (c : Cursor)
    (h : CurAt P sec j c) (hj : j < (P.lst sec).length) :
    ∃ c', nextIncludingOpt pp c = .ok (some c') ∧ C08.CurOn P sec j c' := by
  obtain ⟨ne, ob, oa, hr⟩ := P.rec_at sec hs (split_at (P.lst sec) j hj)
  exact ⟨_, (next_before h.1 h.2 (P.secInfo sec hs) (fun h0 => by subst h0; rfl)).2 hj hr rfl,
    hj, ob, oa, rfl, rfl, rfl, rfl, hr⟩

theorem next_none {pp : PP} (P : PlainObj pp) (sec : Section) (hs : sec.isRec = true) (j : Nat) (c : Cursor)
    (h : CurAt P sec j c) (hj : ¬ j < (P.lst sec).length) : nextIncludingOpt pp c = .ok none :=
  (next_before h.1 h.2 (P.secInfo sec hs) (fun h0 => by subst h0; rfl)).1 hj

theorem C08.CurOn.curAt_succ {pp : PP} {P : PlainObj pp} {sec : Section} {j : Nat} {c : Cursor} (h : C08.CurOn P sec j c) :
    CurAt P sec (j + 1) c := by
  obtain ⟨hj, ob, oa, hsec, hoff, hnext, hleft, _⟩ := h
  refine ⟨hsec, Or.inr ⟨_, hoff, ?_, by omega, by omega⟩⟩
  rw [hnext, List.take_succ_eq_append_getElem hj, List.flatten_append, List.length_append, List.flatten_singleton,
    Nat.add_assoc]

theorem C08.CurOn.rrType {pp : PP} {P : PlainObj pp} {sec : Section} {j : Nat} {c : Cursor} (h : C08.CurOn P sec j c) :
    c.rrType pp.packet = .ok (get16 pp.packet c.nameEnd) := by
  obtain ⟨_, _, _, _, hoff, _, _, hr⟩ := h
  exact rrType_at hoff hr.2.1

/-- the bytes under a live cursor -/
def recBytes (pp : PP) (c : Cursor) : Bytes :=
  match c.offset with
  | some o => (pp.packet.drop o).take (c.offsetNext - o)
  | none => []

theorem C08.CurOn.recBytes {pp : PP} {P : PlainObj pp} {sec : Section} {j : Nat} {c : Cursor} (hs : sec.isRec = true)
    (h : C08.CurOn P sec j c) (hj : j < (P.lst sec).length) : recBytes pp c = (P.lst sec)[j] := by
  obtain ⟨_, _, _, _, hoff, hnext, _, _⟩ := h
  simp only [Dns.recBytes, hoff, hnext]
  rw [Nat.add_sub_cancel_left]
  exact P.window sec hs (split_at (P.lst sec) j hj)

/-- the loop of a hook script that walks a section: `next`, then `delete` where `choose` says so, until `next` returns
nothing.  A `delete` that reports an error value ends the run with `.err`, so that `= .ok` in the refinement theorems
also says that no deletion was refused -/
def delWalk (step : PP → Cursor → Res (Option Cursor)) (choose : Nat → Bool) :
    Nat → Nat → PP → Cursor → Res (PP × List (Bytes × Bool))
  | 0, _, _, _ => .diverge
  | f + 1, k, pp, c =>
    match step pp c with
    | .ok none => .ok (pp, [])
    | .ok (some c') =>
      if choose k then
        match deleteRR pp c' with
        | .ok st =>
          if st.result.isSome then .err .internalError
          else (delWalk step choose f (k + 1) st.pp st.cur).bind (fun r => .ok (r.1, (recBytes pp c', true) :: r.2))
        | .err e => .err e
        | .panic => .panic
        | .diverge => .diverge
      else (delWalk step choose f (k + 1) pp c').bind (fun r => .ok (r.1, (recBytes pp c', false) :: r.2))
    | .err e => .err e
    | .panic => .panic
    | .diverge => .diverge

theorem delWalk_done {step : PP → Cursor → Res (Option Cursor)} {choose : Nat → Bool} {f k : Nat} {pp : PP} {c : Cursor}
    (h : step pp c = .ok none) : delWalk step choose (f + 1) k pp c = .ok (pp, []) := by
  rw [delWalk, h]

theorem delWalk_keep {step : PP → Cursor → Res (Option Cursor)} {choose : Nat → Bool} {f k : Nat} {pp : PP} {c c' : Cursor}
    (h : step pp c = .ok (some c')) (hc : choose k = false) :
    delWalk step choose (f + 1) k pp c =
      (delWalk step choose f (k + 1) pp c').bind (fun r => .ok (r.1, (recBytes pp c', false) :: r.2)) := by
  rw [delWalk, h]
  simp only [hc, Bool.false_eq_true, if_false]

theorem delWalk_delete {step : PP → Cursor → Res (Option Cursor)} {choose : Nat → Bool} {f k : Nat} {pp pp1 : PP}
    {c c' c1 : Cursor} (h : step pp c = .ok (some c')) (hc : choose k = true)
    (hd : deleteRR pp c' = .ok { pp := pp1, cur := c1, result := none }) :
    delWalk step choose (f + 1) k pp c =
      (delWalk step choose f (k + 1) pp1 c1).bind (fun r => .ok (r.1, (recBytes pp c', true) :: r.2)) := by
  rw [delWalk, h]
  simp only [hc, if_true, hd, Option.isSome_none, Bool.false_eq_true, if_false]

/-- under `hend` and `hyield` the walker does what the machine does; the logs agree as far as `obs` sees them -/
theorem delWalk_sim {β} (obs : Bytes × Bool → β) {step : PP → Cursor → Res (Option Cursor)} {choose : Nat → Bool}
    {Sim : PP → Cursor → List Bytes → Nat → Prop}
    (hend : ∀ {pp c xs i}, Sim pp c xs i → ¬ i < xs.length → step pp c = .ok none)
    (hyield : ∀ {pp c xs i}, Sim pp c xs i → ∀ hi : i < xs.length,
      ∃ c', step pp c = .ok (some c') ∧ (∀ b, obs (recBytes pp c', b) = obs (xs[i], b)) ∧ Sim pp c' xs (i + 1) ∧
        ∃ pp1 c1, deleteRR pp c' = .ok { pp := pp1, cur := c1, result := none } ∧ Sim pp1 c1 (xs.eraseIdx i) 0) :
    ∀ (fuel k : Nat) (pp : PP) (c : Cursor) (xs : List Bytes) (i : Nat), Sim pp c xs i →
      ∀ r, absWalk choose fuel k xs i = some r →
        ∃ pp' log, delWalk step choose fuel k pp c = .ok (pp', log) ∧ log.map obs = r.2.map obs ∧
          ∃ c' i', Sim pp' c' r.1 i' := by
  intro fuel
  induction fuel with
  | zero => intro k pp c xs i _ r h; rw [absWalk] at h; cases h
  | succ f ih =>
    intro k pp c xs i hs r h
    by_cases hi : i < xs.length
    · obtain ⟨c', hstep, hobs, hkept, pp1, c1, hdel, hdeleted⟩ := hyield hs hi
      cases hc : choose k
      · rw [absWalk_keep f hi hc] at h
        obtain ⟨r', hr', rfl⟩ := Option.map_eq_some_iff.1 h
        obtain ⟨pp', log, hw, hl, hfin⟩ := ih _ _ _ _ _ hkept r' hr'
        exact ⟨pp', _, by rw [delWalk_keep hstep hc, hw]; rfl, by rw [List.map_cons, List.map_cons, hl, hobs], hfin⟩
      · rw [absWalk_delete f hi hc] at h
        obtain ⟨r', hr', rfl⟩ := Option.map_eq_some_iff.1 h
        obtain ⟨pp', log, hw, hl, hfin⟩ := ih _ _ _ _ _ hdeleted r' hr'
        exact ⟨pp', _, by rw [delWalk_delete hstep hc hdel, hw]; rfl, by rw [List.map_cons, List.map_cons, hl, hobs], hfin⟩
    · rw [absWalk_stop choose f k hi] at h
      cases h
      exact ⟨pp, [], delWalk_done (hend hs hi), rfl, c, i, hs⟩

/-- `P'` is `P` up to the records of `sec` that `keep` selects (and that section's count) -/
def PlainObj.SameBut {pp pp' : PP} (P : PlainObj pp) (P' : PlainObj pp') (sec : Section) (keep : Bytes → Bool) : Prop :=
  (P'.lst sec).filter (fun rc => !keep rc) = (P.lst sec).filter (fun rc => !keep rc) ∧
  (∀ s, s ≠ sec → P'.lst s = P.lst s) ∧ P'.qls = P.qls ∧ P'.q4 = P.q4 ∧
  (∀ i, (i + 1 < sectionCountOffset sec ∨ sectionCountOffset sec + 1 < i) → get16 P'.hdr i = get16 P.hdr i)

theorem PlainObj.SameBut.refl {pp : PP} (P : PlainObj pp) (sec : Section) (keep : Bytes → Bool) : P.SameBut P sec keep :=
  ⟨rfl, fun _ _ => rfl, rfl, rfl, fun _ _ => rfl⟩

theorem PlainObj.SameBut.trans {pp pp' pp'' : PP} {P : PlainObj pp} {P' : PlainObj pp'} {P'' : PlainObj pp''} {sec : Section}
    {keep : Bytes → Bool} (h : P.SameBut P' sec keep) (h' : P'.SameBut P'' sec keep) : P.SameBut P'' sec keep :=
  ⟨h'.1.trans h.1, fun s hs => (h'.2.1 s hs).trans (h.2.1 s hs), h'.2.2.1.trans h.2.2.1, h'.2.2.2.1.trans h.2.2.2.1,
    fun i hi => (h'.2.2.2.2 i hi).trans (h.2.2.2.2 i hi)⟩

theorem C08.CurOn.delete {pp : PP} {P : PlainObj pp} {sec : Section} {j : Nat} {c : Cursor} (hs : sec.isRec = true)
    (h : C08.CurOn P sec j c) :
    ∃ (pp' : PP) (P' : PlainObj pp') (c' : Cursor), deleteRR pp c = .ok { pp := pp', cur := c', result := none } ∧
      CurAt P' sec 0 c' ∧ P'.lst sec = (P.lst sec).take j ++ (P.lst sec).drop (j + 1) ∧
      (∀ s, s ≠ sec → P'.lst s = P.lst s) ∧ P'.qls = P.qls ∧ P'.q4 = P.q4 ∧
      (∀ i, (i + 1 < sectionCountOffset sec ∨ sectionCountOffset sec + 1 < i) → get16 P'.hdr i = get16 P.hdr i) := by
  obtain ⟨hj, ob, oa, hsec, hoff, hnext, _, hr⟩ := h
  obtain ⟨pp', P', hdel, e1, e2, e3, e4, e5, _⟩ := P.delete_at sec hs (split_at (P.lst sec) j hj) c hr hoff hnext rfl
  exact ⟨pp', P', _, hdel, ⟨hsec, Or.inl ⟨rfl, rfl⟩⟩, e1, e2, e3, e4, e5⟩

/-- `step` moves a cursor of `sec` to the next record that `keep` selects, passing over the others;
it ends the walk when there is none -/
def Walks (step : PP → Cursor → Res (Option Cursor)) (sec : Section) (keep : Bytes → Bool) : Prop :=
  ∀ {pp : PP} (P : PlainObj pp) (c : Cursor) (j : Nat), CurAt P sec j c →
    ∃ m, j ≤ m ∧ (∀ rc ∈ ((P.lst sec).take m).drop j, keep rc = false) ∧
      ((m = (P.lst sec).length ∧ step pp c = .ok none) ∨
       ∃ c', step pp c = .ok (some c') ∧ C08.CurOn P sec m c' ∧ ∃ hm : m < (P.lst sec).length, keep (P.lst sec)[m] = true)

theorem Walks.congr {step step' : PP → Cursor → Res (Option Cursor)} {sec : Section} {keep : Bytes → Bool}
    (h : Walks step' sec keep)
    (e : ∀ (pp : PP) (P : PlainObj pp) (c : Cursor) (j : Nat), CurAt P sec j c → step pp c = step' pp c) :
    Walks step sec keep := by
  intro pp P c j hc
  rw [e pp P c j hc]
  exact h P c j hc

theorem walks_incl (sec : Section) (hs : sec.isRec = true) : Walks nextIncludingOpt sec (fun _ => true) := by
  intro pp P c j hc
  refine ⟨j, Nat.le_refl _, fun rc hrc => ?_, ?_⟩
  · rw [List.drop_eq_nil_of_le (List.length_take_le _ _)] at hrc
    cases hrc
  · by_cases hj : j < (P.lst sec).length
    · obtain ⟨c', hnx, hon⟩ := next_some P sec hs j c hc hj
      exact .inr ⟨c', hnx, hon, hj, rfl⟩
    · exact .inl ⟨Nat.le_antisymm (before_le hc.2) (Nat.not_lt.1 hj), next_none P sec hs j c hc hj⟩

theorem filter_all {α} (l : List α) : l.filter (fun _ => true) = l := List.filter_eq_self.2 (fun _ _ => rfl)

theorem filter_take_hidden {α} (keep : α → Bool) (l : List α) {j m : Nat} (hjm : j ≤ m)
    (hid : ∀ x ∈ (l.take m).drop j, keep x = false) : (l.take m).filter keep = (l.take j).filter keep := by
  have e : l.take m = l.take j ++ (l.take m).drop j := by
    conv => lhs; rw [← List.take_append_drop j (l.take m), List.take_take, Nat.min_eq_left hjm]
  have hnil : ((l.take m).drop j).filter keep = [] :=
    List.filter_eq_nil_iff.2 (fun x hx => by rw [hid x hx]; exact Bool.false_ne_true)
  rw [e, List.filter_append, hnil, List.append_nil]

theorem filter_split_kept {α} (keep : α → Bool) (l : List α) {m : Nat} (hm : m < l.length) (hk : keep l[m] = true) :
    l.filter keep = (l.take m).filter keep ++ l[m] :: (l.drop (m + 1)).filter keep := by
  conv => lhs; rw [split_at l m hm, List.filter_append, List.filter_cons_of_pos hk]

theorem eraseIdx_mid {α} (xs zs : List α) (y : α) : (xs ++ y :: zs).eraseIdx xs.length = xs ++ zs := by
  rw [List.eraseIdx_append_of_length_le (Nat.le_refl _), Nat.sub_self]
  rfl

theorem getElem_filter_kept {α} (keep : α → Bool) (l : List α) {m : Nat} (hm : m < l.length) (hk : keep l[m] = true)
    (h : ((l.take m).filter keep).length < (l.filter keep).length) : (l.filter keep)[((l.take m).filter keep).length] = l[m] := by
  rw [List.getElem_of_eq (filter_split_kept keep l hm hk) h, List.getElem_append_right (Nat.le_refl _)]
  simp only [Nat.sub_self, List.getElem_cons_zero]

theorem length_filter_take_succ {α} (keep : α → Bool) (l : List α) {m : Nat} (hm : m < l.length) (hk : keep l[m] = true) :
    ((l.take (m + 1)).filter keep).length = ((l.take m).filter keep).length + 1 := by
  rw [List.take_succ_eq_append_getElem hm, List.filter_append, List.filter_cons_of_pos hk, List.length_append]
  rfl

theorem eraseIdx_filter_kept {α} (keep : α → Bool) (l : List α) {m : Nat} (hm : m < l.length) (hk : keep l[m] = true) :
    (l.filter keep).eraseIdx ((l.take m).filter keep).length = (l.take m ++ l.drop (m + 1)).filter keep := by
  rw [filter_split_kept keep l hm hk, eraseIdx_mid, List.filter_append]

theorem filter_not_erase_kept {α} (keep : α → Bool) (l : List α) {m : Nat} (hm : m < l.length) (hk : keep l[m] = true) :
    (l.take m ++ l.drop (m + 1)).filter (fun x => !keep x) = l.filter (fun x => !keep x) := by
  have hk' : ¬ (!keep l[m]) = true := by rw [hk]; exact Bool.false_ne_true
  conv => rhs; rw [split_at l m hm, List.filter_append, List.filter_cons_of_neg (p := fun x => !keep x) hk']
  rw [List.filter_append]

/-- the cursor stands before record `j`; `xs` is what the walk shows of the section, `i` counts what it shows before
`j`; the rest is as in `P0` -/
def PlainSim (sec : Section) (keep : Bytes → Bool) {pp0 : PP} (P0 : PlainObj pp0) (pp : PP) (c : Cursor)
    (xs : List Bytes) (i : Nat) : Prop :=
  ∃ (P : PlainObj pp) (j : Nat), CurAt P sec j c ∧ xs = (P.lst sec).filter keep ∧
    i = (((P.lst sec).take j).filter keep).length ∧ P0.SameBut P sec keep

theorem PlainSim.ends {sec : Section} {keep : Bytes → Bool} {step : PP → Cursor → Res (Option Cursor)}
    (W : Walks step sec keep) {pp0 : PP} {P0 : PlainObj pp0} {pp : PP} {c : Cursor} {xs : List Bytes} {i : Nat}
    (h : PlainSim sec keep P0 pp c xs i) (hi : ¬ i < xs.length) : step pp c = .ok none := by
  obtain ⟨P, j, hc, rfl, rfl, _⟩ := h
  obtain ⟨m, hjm, hid, ⟨_, hstep⟩ | ⟨_, _, _, hm, hk⟩⟩ := W P c j hc
  · exact hstep
  · rw [← filter_take_hidden keep _ hjm hid, filter_split_kept keep _ hm hk, List.length_append, List.length_cons] at hi
    omega

theorem PlainSim.yields {sec : Section} (hs : sec.isRec = true) {keep : Bytes → Bool}
    {step : PP → Cursor → Res (Option Cursor)} (W : Walks step sec keep) {pp0 : PP} {P0 : PlainObj pp0} {pp : PP}
    {c : Cursor} {xs : List Bytes} {i : Nat} (h : PlainSim sec keep P0 pp c xs i) (hi : i < xs.length) :
    ∃ c', step pp c = .ok (some c') ∧ recBytes pp c' = xs[i] ∧ PlainSim sec keep P0 pp c' xs (i + 1) ∧
      ∃ pp1 c1, deleteRR pp c' = .ok { pp := pp1, cur := c1, result := none } ∧
        PlainSim sec keep P0 pp1 c1 (xs.eraseIdx i) 0 := by
  obtain ⟨P, j, hc, rfl, hij, hfr⟩ := h
  -- `m` = next kept index, `i` = number kept before `m`
  obtain ⟨m, hjm, hid, hstep⟩ := W P c j hc
  obtain rfl := hij.trans (congrArg List.length (filter_take_hidden keep (P.lst sec) hjm hid)).symm
  obtain ⟨rfl, _⟩ | ⟨c', hstep, hon, hm, hk⟩ := hstep
  · rw [List.take_length] at hi
    omega
  obtain ⟨pp1, P1, c1, hdel, hc1, e1, e2, e3, e4, e5⟩ := hon.delete hs
  refine ⟨c', hstep, ?_, ⟨P, m + 1, hon.curAt_succ, rfl, (length_filter_take_succ keep _ hm hk).symm, hfr⟩, pp1, c1, hdel,
    P1, 0, hc1, ?_, rfl, hfr.trans ⟨?_, e2, e3, e4, e5⟩⟩
  · rw [hon.recBytes hs hm, getElem_filter_kept keep _ hm hk hi]
  · rw [e1, eraseIdx_filter_kept keep _ hm hk]
  · rw [e1, filter_not_erase_kept keep _ hm hk]

theorem delWalk_refines_of {sec : Section} (hs : sec.isRec = true) {step : PP → Cursor → Res (Option Cursor)}
    {keep : Bytes → Bool} (W : Walks step sec keep) (choose : Nat → Bool) (fuel k : Nat) {pp : PP} (P : PlainObj pp)
    (c : Cursor) (j : Nat) (hc : CurAt P sec j c) {r : List Bytes × List (Bytes × Bool)}
    (h : absWalk choose fuel k ((P.lst sec).filter keep) (((P.lst sec).take j).filter keep).length = some r) :
    ∃ (pp' : PP) (P' : PlainObj pp'), delWalk step choose fuel k pp c = .ok (pp', r.2) ∧
      (P'.lst sec).filter keep = r.1 ∧ P.SameBut P' sec keep := by
  obtain ⟨pp', log, hw, hl, _, _, P', _, _, e, _, hfr⟩ :=
    delWalk_sim (Sim := PlainSim sec keep P) id (fun h => PlainSim.ends W h)
      (fun h hi => by
        obtain ⟨c', h1, h2, h3⟩ := PlainSim.yields hs W h hi
        exact ⟨c', h1, fun b => by rw [h2], h3⟩)
      fuel k pp c _ _ ⟨P, j, hc, rfl, rfl, .refl P sec keep⟩ r h
  rw [List.map_id, List.map_id] at hl
  exact ⟨pp', P', by rw [hw, hl], e.symm, hfr⟩

theorem delWalk_refines (sec : Section) (hs : sec.isRec = true) (step : PP → Cursor → Res (Option Cursor))
    (hstep : ∀ (pp : PP) (P : PlainObj pp) (c : Cursor) (j : Nat), CurAt P sec j c → step pp c = nextIncludingOpt pp c)
    (choose : Nat → Bool) :
    ∀ (fuel k : Nat) (pp : PP) (P : PlainObj pp) (c : Cursor) (j : Nat), CurAt P sec j c →
      ∀ r, absWalk choose fuel k (P.lst sec) j = some r →
        ∃ (pp' : PP) (P' : PlainObj pp'), delWalk step choose fuel k pp c = .ok (pp', r.2) ∧ P'.lst sec = r.1 ∧
          (∀ s, s ≠ sec → P'.lst s = P.lst s) ∧ P'.qls = P.qls ∧ P'.q4 = P.q4 ∧
          (∀ i, (i + 1 < sectionCountOffset sec ∨ sectionCountOffset sec + 1 < i) → get16 P'.hdr i = get16 P.hdr i) := by
  intro fuel k pp P c j hc r h
  have hj : (((P.lst sec).take j).filter (fun _ => true)).length = j := by
    rw [filter_all, List.length_take, Nat.min_eq_left (before_le hc.2)]
  obtain ⟨pp', P', hw, e, _, hfr⟩ := delWalk_refines_of hs (Walks.congr (walks_incl sec hs) hstep) choose fuel k P c j hc
    (by rw [filter_all, hj]; exact h)
  exact ⟨pp', P', hw, by rw [← e, filter_all], hfr⟩

/-- `maybe_skip_opt_section` (response_iterator.rs): what `next()` does once the OPT-including step has landed.  The
record after OPT is required not to be a second OPT (the parser guarantees it) -/
theorem maybeSkipOpt_spec {pp : PP} {c : Cursor} {o : Nat} (ho : c.offset = some o) (h10 : c.nameEnd + 10 ≤ pp.packet.length) :
    (get16 pp.packet c.nameEnd ≠ 41 → maybeSkipOpt pp c = .ok (some c)) ∧
    (get16 pp.packet c.nameEnd = 41 →
      (c.rrsLeft = 0 → maybeSkipOpt pp c = .ok none) ∧
      (c.rrsLeft ≠ 0 → ∀ {sec : Section} {r : RecPos} {ob oa : Bool}, RRAtPos pp.packet sec r ob oa → c.offsetNext = r.off →
        get16 pp.packet r.ne ≠ 41 → maybeSkipOpt pp c = .ok (some ⟨c.sec, some r.off, r.next, r.ne, c.rrsLeft - 1⟩))) := by
  unfold maybeSkipOpt
  rw [rrType_at ho h10]
  refine ⟨fun h41 => ?_, fun h41 => ⟨fun hz => ?_, fun hz sec r ob oa hr hnext h41' => ?_⟩⟩
  · rw [bind_ok, if_neg (by simpa [TYPE_OPT] using h41)]
    rfl
  · rw [bind_ok, if_pos (by simpa [TYPE_OPT] using h41), if_pos (by simpa using hz)]
    rfl
  · rw [bind_ok, if_pos (by simpa [TYPE_OPT] using h41), if_neg (by simpa using hz),
      land_spec hr ⟨c.sec, c.offset, c.offsetNext, c.nameEnd, c.rrsLeft - 1⟩ hnext, bind_ok,
      rrType_at (c := ⟨c.sec, some r.off, r.next, r.ne, c.rrsLeft - 1⟩) rfl hr.2.1, bind_ok, assert,
      if_pos (by simpa [TYPE_OPT] using h41')]
    rfl

theorem nextSkip_of_none {pp : PP} {c : Cursor} (h : nextIncludingOpt pp c = .ok none) : nextSkippingOpt pp c = .ok none := by
  rw [nextSkippingOpt, h]
  rfl

theorem nextSkip_of_some {pp : PP} {c c' : Cursor} (h : nextIncludingOpt pp c = .ok (some c')) :
    nextSkippingOpt pp c = maybeSkipOpt pp c' := by
  rw [nextSkippingOpt, h]
  rfl

/-- in the answer and authority sections no record is OPT: the skipping step is the plain step -/
theorem nextSkip_eq_incl {pp : PP} (P : PlainObj pp) (sec : Section) (hs : sec.isRec = true) (hna : sec ≠ .additional)
    (c : Cursor) (j : Nat) (h : CurAt P sec j c) : nextSkippingOpt pp c = nextIncludingOpt pp c := by
  by_cases hj : j < (P.lst sec).length
  · obtain ⟨c', hnx, _, _, _, _, hoff, _, _, hr⟩ := next_some P sec hs j c h hj
    rw [nextSkip_of_some hnx, hnx]
    refine (maybeSkipOpt_spec hoff hr.2.1).1 (fun h41 => hna ?_)
    have := hr.2.2.2.2
    rw [if_pos h41] at this
    exact this.1
  · rw [nextSkip_of_none (next_none P sec hs j c h hj), next_none P sec hs j c h hj]

theorem Walks.of_public {sec : Section} (hs : sec.isRec = true) {step : PP → Cursor → Res (Option Cursor)}
    (hstep : step = nextIncludingOpt ∨ (step = nextSkippingOpt ∧ sec ≠ .additional)) : Walks step sec (fun _ => true) := by
  rcases hstep with rfl | ⟨rfl, hna⟩
  · exact walks_incl sec hs
  · exact Walks.congr (walks_incl sec hs) (fun pp P c j h => nextSkip_eq_incl P sec hs hna c j h)

/-- the records the OPT-skipping walk sees -/
def vis (R : List Bytes) : List Bytes := R.filter (fun rc => !isOptPiece rc)

theorem vis_all {R : List Bytes} (h : ∀ r ∈ R, isOptPiece r = false) : vis R = R :=
  List.filter_eq_self.2 (fun r hr => by rw [h r hr]; rfl)

theorem C08.CurOn.isOpt_iff {pp : PP} {P : PlainObj pp} {sec : Section} {j : Nat} {c : Cursor} (hs : sec.isRec = true)
    (h : C08.CurOn P sec j c) (hj : j < (P.lst sec).length) :
    isOptPiece (P.lst sec)[j] = true ↔ get16 pp.packet c.nameEnd = 41 := by
  obtain ⟨_, _, _, _, _, _, _, hr⟩ := h
  exact (isOpt_iff_type P sec hs (split_at (P.lst sec) j hj) hr).1

theorem drop_take_succ {α} (l : List α) {j : Nat} (hj : j < l.length) : (l.take (j + 1)).drop j = [l[j]] := by
  rw [List.take_succ_eq_append_getElem hj, List.drop_left' (by rw [List.length_take]; omega)]

theorem C08.CurOn.skip {pp : PP} {P : PlainObj pp} {j : Nat} {c : Cursor} (h : C08.CurOn P .additional j c)
    (hj : j < (P.lst .additional).length) :
    (isOptPiece (P.lst .additional)[j] = false → maybeSkipOpt pp c = .ok (some c)) ∧
    (isOptPiece (P.lst .additional)[j] = true →
      (¬ j + 1 < (P.lst .additional).length → maybeSkipOpt pp c = .ok none) ∧
      (∀ hj1 : j + 1 < (P.lst .additional).length, isOptPiece (P.lst .additional)[j + 1] = false ∧
        ∃ c', maybeSkipOpt pp c = .ok (some c') ∧ C08.CurOn P .additional (j + 1) c')) := by
  have hs : Section.additional.isRec = true := rfl
  have ⟨_, _, _, hsec, hoff, _, hleft, hr⟩ := h
  rw [Nat.sub_sub] at hleft
  have hiff := h.isOpt_iff hs hj
  obtain ⟨hother, hisopt⟩ := maybeSkipOpt_spec hoff hr.2.1
  refine ⟨fun hvis => hother (mt hiff.2 (by rw [hvis]; exact Bool.false_ne_true)), fun hopt => ?_⟩
  obtain ⟨hlast, hthen⟩ := hisopt (hiff.1 hopt)
  refine ⟨fun hj1 => hlast (hleft.trans (Nat.sub_eq_zero_of_le (Nat.not_lt.1 hj1))), fun hj1 => ?_⟩
  have hpos : 0 < ((P.lst .additional).drop (j + 1)).length := by rw [List.length_drop]; exact Nat.sub_pos_of_lt hj1
  have hvis : isOptPiece (P.lst .additional)[j + 1] = false :=
    (others_visible P (split_at (P.lst .additional) j hj) hopt).2 _
      (List.mem_of_getElem (i := 0) (h := hpos) (by rw [List.getElem_drop]))
  obtain ⟨ne2, ob2, oa2, hr2⟩ := P.rec_at .additional hs (split_at (P.lst .additional) (j + 1) hj1)
  rcases h.curAt_succ.2 with ⟨hv, _⟩ | ⟨_, _, hadj, _, _⟩
  · rw [hoff] at hv; cases hv
  have hon : C08.CurOn P .additional (j + 1) ⟨c.sec, some _, _, ne2, c.rrsLeft - 1⟩ := ⟨hj1, ob2, oa2, hsec, rfl, rfl, congrArg (· - 1) hleft, hr2⟩
  exact ⟨hvis, _, hthen (hleft ▸ Nat.sub_ne_zero_of_lt hj1) hr2 hadj (mt (hon.isOpt_iff hs hj1).2 (by rw [hvis]; exact Bool.false_ne_true)), hon⟩

theorem walks_skip : Walks nextSkippingOpt .additional (fun rc => !isOptPiece rc) := by
  intro pp P c j hc
  have hnil : ∀ rc ∈ ((P.lst .additional).take j).drop j, (!isOptPiece rc) = false := fun rc hrc => by
    rw [List.drop_eq_nil_of_le (List.length_take_le _ _)] at hrc
    cases hrc
  by_cases hj : j < (P.lst .additional).length
  · obtain ⟨c', hnx, hon⟩ := next_some P .additional rfl j c hc hj
    obtain ⟨hvisible, hisopt⟩ := hon.skip hj
    rw [nextSkip_of_some hnx]
    cases hopt : isOptPiece (P.lst .additional)[j]
    · exact ⟨j, Nat.le_refl _, hnil, .inr ⟨c', hvisible hopt, hon, hj, congrArg not hopt⟩⟩
    · obtain ⟨hlast, hthen⟩ := hisopt hopt
      refine ⟨j + 1, Nat.le_succ _, fun rc hrc => ?_, ?_⟩
      · rw [drop_take_succ _ hj, List.mem_singleton] at hrc
        rw [hrc]; exact congrArg not hopt
      · by_cases hj1 : j + 1 < (P.lst .additional).length
        · obtain ⟨hvis, c'', hskip, hon'⟩ := hthen hj1
          exact .inr ⟨c'', hskip, hon', hj1, congrArg not hvis⟩
        · exact .inl ⟨Nat.le_antisymm hj (Nat.not_lt.1 hj1), hlast hj1⟩
  · exact ⟨j, Nat.le_refl _, hnil, .inl ⟨Nat.le_antisymm (before_le hc.2) (Nat.not_lt.1 hj), nextSkip_of_none (next_none P .additional rfl j c hc hj)⟩⟩

theorem delWalkSkip_refines (choose : Nat → Bool) :
    ∀ (fuel k : Nat) (pp : PP) (P : PlainObj pp) (c : Cursor) (j : Nat), CurAt P .additional j c →
      ∀ r, absWalk choose fuel k (vis (P.lst .additional)) (vis ((P.lst .additional).take j)).length = some r →
        ∃ (pp' : PP) (P' : PlainObj pp'), delWalk nextSkippingOpt choose fuel k pp c = .ok (pp', r.2) ∧
          vis (P'.lst .additional) = r.1 ∧
          (P'.lst .additional).filter isOptPiece = (P.lst .additional).filter isOptPiece ∧
          (∀ s, s ≠ .additional → P'.lst s = P.lst s) ∧ P'.qls = P.qls ∧ P'.q4 = P.q4 ∧
          (∀ i, (i + 1 < 10 ∨ 11 < i) → get16 P'.hdr i = get16 P.hdr i) := by
  intro fuel k pp P c j hc r h
  obtain ⟨pp', P', hw, e, hopt, hrest⟩ := delWalk_refines_of rfl walks_skip choose fuel k P c j hc h
  simp only [Bool.not_not] at hopt
  exact ⟨pp', P', hw, e, hopt, hrest⟩

end Dns
