/-
  `Renamer::replace_raw` (renamer.rs), the function that decides whether a name matches the source and builds the
  replacement — the core of C07 — as translated from the current source (`Generated/TrRename.lean`) is the model
  function `replaceRaw` (Renamer.lean) that `replaceRaw_spec`, `rename_record` and `rename_spec` are proved about.
-/
import DnsModel.Renamer
import DnsModel.Generated.TrRename
import DnsModel.Tie.Reader
namespace Dns.Tie
open Dns

theorem eqIgnoreCase_ofNat (a b : Nat) (ha : a < 256) (hb : b < 256) :
    eqIgnoreCase (UInt8.ofNat a) (UInt8.ofNat b) = (Tr.asciiLower a == Tr.asciiLower b) := by
  rw [eqIgnoreCase_eq]
  simp [UInt8.toNat_ofNat', Nat.mod_eq_of_lt ha, Nat.mod_eq_of_lt hb]

/- The translation copies the code after the first loop to both of its exits, so the comparison loop and its
`(0..n).all(..)` helper exist twice.  The copies are the same functions. -/

theorem all5_eq_all3 : Tr.Rename.replace_raw_all5 = Tr.Rename.replace_raw_all3 := by
  funext name source offset i n j
  induction n generalizing j with
  | zero => rfl
  | succ n ih => simp only [Tr.Rename.replace_raw_all5, Tr.Rename.replace_raw_all3, ih]

theorem loop4_eq_loop2 : Tr.Rename.replace_raw_loop4 = Tr.Rename.replace_raw_loop2 := by
  funext name target source tl offset fuel i
  induction fuel generalizing i with
  | zero => rfl
  | succ n ih => simp only [Tr.Rename.replace_raw_loop4, Tr.Rename.replace_raw_loop2, all5_eq_all3, ih]

theorem all3_eq (name source : Bytes) (offset i n j : Nat) :
    Tr.Rename.replace_raw_all3 name source offset i n j = labelEqLoop name source i offset n j := by
  induction n generalizing j with
  | zero => rfl
  | succ n ih =>
    unfold Tr.Rename.replace_raw_all3 labelEqLoop
    refine Res.bind_congr fun a ha => Res.bind_congr fun k _ => Res.bind_congr fun b hb => ?_
    rw [eqIgnoreCase_ofNat a b (idx_lt ha).2 (idx_lt hb).2, ih]
    rfl

/-- what `replace_raw` does once the comparison loop has run -/
def afterCmp (name target : Bytes) (offset : Nat) (all : Bool) : Res (Option Bytes) :=
  if !all then .ok none
  else if offset + target.length > DNS_MAX_HOSTNAME_LEN then .err .invalidName
  else .ok (some (name.take offset ++ target))

theorem cmp2_eq (name target source : Bytes) (offset fuel i : Nat) (ho : offset ≤ name.length) :
    Tr.Rename.replace_raw_loop2 name target source target.length offset fuel i
      = (replaceCmpLoop name source offset fuel i >>= afterCmp name target offset) := by
  induction fuel generalizing i with
  | zero => rfl
  | succ n ih =>
    unfold Tr.Rename.replace_raw_loop2 replaceCmpLoop
    rw [Res.bind_assoc]
    refine Res.bind_congr fun b hb => ?_
    simp only [hb, ih, all3_eq, Res.bind_ok, Res.pure_eq, bind_ite, Res.bind_assoc]
    have hs : slice name 0 offset = .ok (name.take offset) := by simp [slice, ho]
    simp only [afterCmp, hs, Res.bind_ok, List.nil_append, Bool.not_true, Bool.not_false, Bool.false_eq_true, if_false,
      if_true]
    grind

/-- what `replace_raw` does once the first loop has stopped at `i` -/
def afterFind (name target source : Bytes) (offset : Nat) (i : Nat) : Res (Option Bytes) := do
  if i ≥ name.length then return none
  let b ← idx name i
  if b == 0 && name.length > 0 then return none
  failIf (i != offset) .invalidName
  let all ← replaceCmpLoop name source offset (name.length + 1) i
  afterCmp name target offset all

theorem find_eq (name target source : Bytes) (offset fuel i : Nat) (ho : offset ≤ name.length) :
    Tr.Rename.replace_raw_loop name target source name.length target.length offset fuel i
      = (replaceFindLoop name offset fuel i >>= afterFind name target source offset) := by
  induction fuel generalizing i with
  | zero => rfl
  | succ n ih =>
    unfold Tr.Rename.replace_raw_loop replaceFindLoop
    rw [Res.bind_assoc]
    refine Res.bind_congr fun b hb => ?_
    have hlt := (idx_lt hb).1
    simp only [hb, ih, loop4_eq_loop2, cmp2_eq _ _ _ _ _ _ ho, afterFind, assert, failIf_bind, Res.bind_ok, Res.pure_eq,
      Res.bind_panic, bind_ite]
    grind

theorem replace_raw_eq (name target source : Bytes) (sfx : Bool) :
    Tr.Rename.replace_raw name target source sfx = replaceRaw name target source sfx := by
  unfold Tr.Rename.replace_raw replaceRaw
  simp only [failIf_bind, bind_ite, Res.pure_eq, Res.bind_ok, Res.bind_assoc]
  refine guard_congr Iff.rfl fun h1 => guard_congr Iff.rfl fun h2 => Res.bind_congr fun s0 _ => ?_
  have hle : source.length ≤ name.length := by grind
  obtain ⟨t0, ht0, -⟩ := idx_ok_of_lt (p := target) (i := 0) (by grind)
  simp only [ht0, sub_ok hle, find_eq _ _ _ _ _ _ (Nat.sub_le _ _), Res.bind_ok]
  -- the source does not read `target_name[0]` when `source_name[0]` is already 0; the model reads both
  cases (s0 == 0) <;> cases (t0 == 0) <;>
    simp only [Bool.not_true, Bool.not_false, Bool.or_true, Bool.or_false, Bool.false_eq_true, if_true, if_false]
  refine Res.bind_congr fun i _ => ?_
  simp only [afterFind, afterCmp, failIf_bind, Res.pure_eq, decide_eq_true_eq]

end Dns.Tie
