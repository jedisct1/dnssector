/-
  The trusted name readers of compress.rs (`raw_name_len`, `raw_name_len_after_decompression`,
  `copy_uncompressed_name`, `raw_name_to_str`) and the case-insensitive comparison of the suffix dictionary
  (`SuffixDict::raw_names_eq_ignore_case`), as translated from the current source (`Generated/TrReader.lean`), are
  the functions of the hand-written model (Iter.lean, Compress.lean) that C03, C05, C06 and C07 are proved about.
-/
import DnsModel.Compress
import DnsModel.Generated.TrReader
import DnsModel.Tie.Name
namespace Dns.Tie
open Dns

theorem raw_name_len_loop_eq (name : Bytes) (fuel i : Nat) :
    Tr.Reader.raw_name_len_loop name fuel i = rawNameLenLoop name fuel i := by
  induction fuel generalizing i with
  | zero => rfl
  | succ n ih =>
    unfold Tr.Reader.raw_name_len_loop rawNameLenLoop
    refine Res.bind_congr fun b hb => ?_
    simp only [hb, ih, isPtr, Res.bind_ok, Res.pure_eq]
    grind

theorem raw_name_len_eq (name : Bytes) : Tr.Reader.raw_name_len name = rawNameLen name :=
  raw_name_len_loop_eq name _ 0

theorem raw_name_len_after_loop_eq (p : Bytes) (fuel off nl : Nat) :
    Tr.Reader.raw_name_len_after_decompression_loop p fuel off nl = rawNameLenAfterLoop p fuel off nl := by
  induction fuel generalizing off nl with
  | zero => rfl
  | succ n ih =>
    unfold Tr.Reader.raw_name_len_after_decompression_loop rawNameLenAfterLoop
    refine Res.bind_congr fun b _ => ?_
    simp only [ih, isPtr, Res.pure_eq]
    refine ite_congr rfl (fun _ => Res.bind_congr fun w _ => ?_) fun _ => ?_
    · simp only [assert, bind_ite, Res.bind_ok, Res.bind_panic]
    · grind

theorem raw_name_len_after_decompression_eq (p : Bytes) (off : Nat) :
    Tr.Reader.raw_name_len_after_decompression p off = rawNameLenAfterDecompression p off :=
  raw_name_len_after_loop_eq p _ off 0

theorem slice_length {p s : Bytes} {a b : Nat} (h : slice p a b = .ok s) : s.length = b - a := by
  unfold slice at h
  split at h
  · obtain rfl := Res.ok.inj h
    rw [List.length_take, List.length_drop]; omega
  · cases h

/-- the source appends to the caller's vector and counts; the model returns the appended bytes -/
theorem copy_uncompressed_name_loop_eq (p : Bytes) (fuel : Nat) (pre acc : Bytes) (off : Nat) (fin : Option Nat) :
    Tr.Reader.copy_uncompressed_name_loop p fuel fin off (pre ++ acc) acc.length
      = (copyUncompressedNameLoop p fuel off acc fin >>= fun r => Res.ok ((r.1.length, r.2), pre ++ r.1)) := by
  induction fuel generalizing acc off fin with
  | zero => rfl
  | succ n ih =>
    unfold Tr.Reader.copy_uncompressed_name_loop copyUncompressedNameLoop
    rw [Res.bind_assoc]
    refine Res.bind_congr fun b _ => ?_
    simp only [bind_ite, Res.bind_assoc]
    simp only [isPtr]
    refine ite_congr rfl (fun _ => Res.bind_congr fun w _ => ?_) fun _ => ?_
    · simp only [assert, bind_ite, Res.bind_ok, Res.bind_panic, ih]
    · have e : off + (1 + b) = off + 1 + b := by omega
      rw [e]
      refine Res.bind_congr fun lab hs => ?_
      have hl : (acc ++ lab).length = acc.length + (1 + b) := by
        rw [List.length_append, slice_length hs]; omega
      rw [← hl, List.append_assoc, ih]
      simp only [Res.pure_eq, Res.bind_ok]

theorem copy_uncompressed_name_eq (p : Bytes) (pre : Bytes) (off : Nat) :
    Tr.Reader.copy_uncompressed_name pre p off
      = (copyUncompressedName p off >>= fun r => Res.ok ((r.1.length, r.2), pre ++ r.1)) := by
  have h := copy_uncompressed_name_loop_eq p nameFuel pre [] off none
  rw [List.append_nil] at h
  exact h

theorem toLowerB_toNat (c : UInt8) : (toLowerB c).toNat = Tr.asciiLower c.toNat := by
  unfold toLowerB Tr.asciiLower
  split
  · rename_i h
    have : c.toNat + 32 < 256 := by omega
    simp [Nat.mod_eq_of_lt this]
  · rfl

theorem u8_beq (x y : UInt8) : (x == y) = (x.toNat == y.toNat) := by
  rw [Bool.eq_iff_iff, beq_iff_eq, beq_iff_eq, UInt8.toNat_inj]

theorem eqIgnoreCase_eq (a b : UInt8) :
    eqIgnoreCase a b = (Tr.asciiLower a.toNat == Tr.asciiLower b.toNat) := by
  unfold eqIgnoreCase
  rw [u8_beq, toLowerB_toNat, toLowerB_toNat]

theorem raw_names_eq_loop_eq (l1 l2 : Bytes) (n : Nat) :
    Tr.Reader.raw_names_eq_ignore_case_zip1 l1 l2 n = .ok (rawNamesEqLoop l1 l2 n) := by
  induction l1 generalizing l2 n with
  | nil => cases l2 <;> rfl
  | cons c1 r1 ih =>
    cases l2 with
    | nil => rfl
    | cons c2 r2 =>
      unfold Tr.Reader.raw_names_eq_ignore_case_zip1 rawNamesEqLoop
      simp only [eqIgnoreCase_eq, u8_beq c1 0, ih, sub, bind_ite, Res.bind_ok, Res.bind_panic]
      grind

theorem raw_names_eq_ignore_case_eq (n1 n2 : Bytes) :
    Tr.Reader.raw_names_eq_ignore_case n1 n2 = .ok (rawNamesEqIgnoreCase n1 n2) :=
  raw_names_eq_loop_eq n1 n2 0

theorem each_eq2 (l res : Bytes) : Tr.Reader.raw_name_to_str_each2 l res = .ok (res ++ escapeLabel l) := by
  induction l generalizing res with
  | nil => simp [Tr.Reader.raw_name_to_str_each2, escapeLabel]
  | cons c r ih =>
    unfold Tr.Reader.raw_name_to_str_each2
    have hc : (c.toNat == 0x2e) = (c == 46) := (u8_beq c 46).symm
    simp only [hc, UInt8.ofNat_toNat, ih, escapeLabel, List.flatMap_cons, List.append_assoc]
    split <;> rfl

/-- the label loop is translated once for each of the two places it is called from -/
theorem each3_eq_each2 : Tr.Reader.raw_name_to_str_each3 = Tr.Reader.raw_name_to_str_each2 := by
  funext l res
  induction l generalizing res with
  | nil => rfl
  | cons c r ih => simp only [Tr.Reader.raw_name_to_str_each3, Tr.Reader.raw_name_to_str_each2, ih]

theorem raw_name_to_str_loop_eq (p : Bytes) (fuel off ind : Nat) (res : Bytes) :
    Tr.Reader.raw_name_to_str_loop p fuel ind off res = rawNameToStrLoop p fuel off ind res := by
  induction fuel generalizing off ind res with
  | zero => rfl
  | succ n ih =>
    unfold Tr.Reader.raw_name_to_str_loop rawNameToStrLoop
    refine Res.bind_congr fun b _ => ?_
    simp only [ih, each3_eq_each2, each_eq2, isPtr, Res.bind_ok, Res.pure_eq]
    refine ite_congr rfl (fun _ => rfl) fun _ => ite_congr rfl (fun _ => rfl) fun _ => Res.bind_congr fun lab _ => ?_
    cases List.isEmpty res <;> rfl

theorem raw_name_to_str_eq (p : Bytes) (off : Nat) : Tr.Reader.raw_name_to_str p off = rawNameToStr p off :=
  raw_name_to_str_loop_eq p _ off 0 []

/-- what C03, C05, C06 and C07 restate (`raw_name_to_str_eq` is used by C03 on its own) -/
theorem reader_tie (p pre n1 n2 : Bytes) (off : Nat) :
    Tr.Reader.raw_name_len p = rawNameLen p ∧
    Tr.Reader.raw_name_len_after_decompression p off = rawNameLenAfterDecompression p off ∧
    Tr.Reader.copy_uncompressed_name pre p off
      = (copyUncompressedName p off >>= fun r => Res.ok ((r.1.length, r.2), pre ++ r.1)) ∧
    Tr.Reader.raw_names_eq_ignore_case n1 n2 = .ok (rawNamesEqIgnoreCase n1 n2) :=
  ⟨raw_name_len_eq p, raw_name_len_after_decompression_eq p off, copy_uncompressed_name_eq p pre off,
   raw_names_eq_ignore_case_eq n1 n2⟩

end Dns.Tie
