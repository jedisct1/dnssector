/-
  How a translated function and its model are brought to a common form.  A tie proof unfolds both sides one step,
  rewrites the callees by their own ties, lets `Res.bind_congr` step over every call the two sides share, pushes the
  remaining binds through the conditionals (`bind_ite`) and leaves trees of arithmetic conditions, which `grind`
  decides however the source happens to spell them.
-/
import DnsModel.Lemmas.Res
import DnsModel.TrSupport
namespace Dns.Tie
open Dns

theorem res_bind_pure {α} (x : Res α) : (x >>= fun a => Res.ok a) = x := Res.bind_pure x

theorem bind_ite {α β} (c : Prop) [Decidable c] (x y : Res α) (f : α → Res β) :
    ((if c then x else y) >>= f) = if c then (x >>= f) else (y >>= f) := Res.bind_ite c x y f

/-- a dispatch both sides make on the same condition, the model's result still to be handed on -/
theorem ite_bind_congr {α β} {c : Prop} [Decidable c] {x y : Res β} {a b : Res α} {k : α → Res β}
    (h1 : c → x = (a >>= k)) (h2 : ¬c → y = (b >>= k)) : (if c then x else y) = ((if c then a else b) >>= k) := by
  split
  · exact h1 ‹_›
  · exact h2 ‹_›

/-- an early exit both sides take, on conditions that may be spelt differently -/
theorem guard_congr {α} {g g' : Prop} [Decidable g] [Decidable g'] {r x y : Res α}
    (hg : g ↔ g') (h : ¬g → x = y) : (if g then r else x) = (if g' then r else y) := by
  by_cases hc : g
  · rw [if_pos hc, if_pos (hg.1 hc)]
  · rw [if_neg hc, if_neg (fun h' => hc (hg.2 h')), h hc]

theorem sub_ok {a b : Nat} (h : b ≤ a) : sub a b = .ok (a - b) := Dns.sub_ok h

theorem idx_lt {p : Bytes} {i b : Nat} (h : idx p i = .ok b) : i < p.length ∧ b < 256 := by
  have := idx_ok_iff.1 h
  exact ⟨byteAt_lt_length this, byteAt_lt this⟩

end Dns.Tie
