/-
  `ParsedPacket::insert_rr` (parsed_packet.rs), as translated from the current source (`Generated/TrCounts.lean`),
  computes what the model function `insertRR` (Mutate.lean) computes: on an object that needs no decompression
  (`insert_rr_plain`) and through decompression (`insert_rr_compressed`).

  The source moves bytes with `Vec::resize`, `copy_within` and `copy_from_slice` (TrSupport.lean gives each its
  meaning, with its panics); `splice_eq` shows that the three together are the model's `take io ++ rr ++ drop io`.
  `ParsedPacket::recompute` is translated too (`recompute_eq`); `Compress::uncompress` is *not*: the translated code
  calls the model's `uncompress`, which stays tied by correspondence.  Hypothesis `OffOK`: with a section start
  beyond the end of the packet the source appends where the model panics; no consistent object is in that state.
-/
import DnsModel.Tie.Counts
import DnsModel.Tie.Parse
namespace Dns.Tie
open Dns

theorem vecResize_grow (v : Bytes) (n x : Nat) :
    Tr.vecResize v (v.length + n) x = v ++ List.replicate n (UInt8.ofNat x) := by
  unfold Tr.vecResize
  split
  · obtain rfl : n = 0 := by omega
    simp
  · rw [Nat.add_sub_cancel_left]

theorem splice_eq (p rr : Bytes) (io : Nat) (h : io ≤ p.length) :
    (Tr.copyWithin (Tr.vecResize p (p.length + rr.length) 0) io p.length (io + rr.length) >>= fun q =>
      Tr.copyFromSlice q io (io + rr.length) rr) = .ok (p.take io ++ rr ++ p.drop io) := by
  -- with `p = a ++ b` cut at `io`, every `take`/`drop` below falls on a boundary of `a ++ b ++ z`
  obtain ⟨a, b, rfl, rfl⟩ : ∃ a b, p = a ++ b ∧ a.length = io :=
    ⟨p.take io, p.drop io, (List.take_append_drop io p).symm, List.length_take_of_le h⟩
  rw [vecResize_grow]
  generalize hz : List.replicate rr.length (UInt8.ofNat 0) = z
  have hzl : z.length = rr.length := by rw [← hz, List.length_replicate]
  have hc : a.length ≤ (a ++ b).length ∧ (a ++ b).length ≤ (a ++ b ++ z).length ∧
      a.length + rr.length + ((a ++ b).length - a.length) ≤ (a ++ b ++ z).length := by
    simp only [List.length_append]; omega
  have hq : List.take (a.length + rr.length) (a ++ b ++ z) ++
      List.take ((a ++ b).length - a.length) (List.drop a.length (a ++ b ++ z)) ++
      List.drop (a.length + rr.length + ((a ++ b).length - a.length)) (a ++ b ++ z)
      = a ++ (List.take rr.length (b ++ z) ++ b) := by
    rw [List.append_assoc a b z, List.take_length_add_append, List.drop_left, List.length_append, Nat.add_sub_cancel_left,
      List.take_left, List.drop_eq_nil_of_le (by simp only [List.length_append]; omega), List.append_nil, List.append_assoc]
  have hw : (List.take rr.length (b ++ z)).length = rr.length := by
    rw [List.length_take, List.length_append]; omega
  generalize List.take rr.length (b ++ z) = w at hq hw
  simp only [Tr.copyWithin, if_pos hc, Res.bind_ok, Tr.copyFromSlice, hq]
  rw [if_pos (by simp only [List.length_append, hw]; omega), List.take_left, List.take_left, List.drop_left,
    ← List.append_assoc a, ← hw, ← List.length_append, List.drop_left]

/-- the fields of `ParsedPacket` that `insert_rr` returns -/
def ppTup (pp : PP) := (pp.packet, pp.offsetQuestion, pp.offsetAnswers, pp.offsetNameservers, pp.offsetAdditional,
  pp.offsetEdns, pp.maybeCompressed, pp.cached)

/-- the model returns a refusal as a value next to the untouched object; the source as an error -/
def insFinish (r : PP × Option Err) : Res (Bytes × Option Nat × Option Nat × Option Nat × Option Nat × Option Nat × Bool ×
    Option (Bytes × Nat × Nat)) :=
  match r.2 with | some e => Res.err e | none => Res.ok (ppTup r.1)

/-- true of every object the theorems of C08 call consistent -/
def OffOK (pp : PP) : Prop :=
  (∀ o, pp.offsetAnswers = some o → o ≤ pp.packet.length) ∧ (∀ o, pp.offsetNameservers = some o → o ≤ pp.packet.length) ∧
  (∀ o, pp.offsetAdditional = some o → o ≤ pp.packet.length)

theorem insFinish_none (pp : PP) : insFinish (pp, none) = .ok (ppTup pp) := rfl

theorem insFinish_some (pp : PP) (e : Err) : insFinish (pp, some e) = .err e := rfl

theorem getD_or_le {a : Option Nat} {n : Nat} (h : ∀ o, a = some o → o ≤ n) : a.getD n ≤ n := by
  cases a with
  | none => exact Nat.le_refl n
  | some o => exact h o rfl

theorem or_le {a b : Option Nat} {n : Nat} (ha : ∀ o, a = some o → o ≤ n) (hb : ∀ o, b = some o → o ≤ n) :
    ∀ o, a.or b = some o → o ≤ n := by
  cases a with
  | none => exact hb
  | some x => exact ha

theorem insertionOffset_le {pp : PP} {s : Section} {io : Nat} (hoff : OffOK pp) (h : insertionOffset pp s = .ok io) :
    io ≤ pp.packet.length := by
  obtain ⟨h1, h2, h3⟩ := hoff
  cases s with
  | question => exact Res.ok.inj h ▸ getD_or_le (or_le (or_le h1 h2) h3)
  | answer => exact Res.ok.inj h ▸ getD_or_le (or_le h2 h3)
  | nameServers => exact Res.ok.inj h ▸ getD_or_le h3
  | additional => exact Res.ok.inj h ▸ Nat.le_refl _
  | edns => cases h

theorem rrcountInc_ok {pp pp1 : PP} {s : Section} (h : rrcountInc pp s = .ok (pp1, none)) :
    ∃ pk, pp1 = { pp with packet := pk } ∧ pk.length = pp.packet.length := by
  unfold rrcountInc at h
  obtain ⟨n, -, h⟩ := Res.bind_eq_ok.1 h
  split at h
  · cases h
  · split at h
    · cases h
    · obtain ⟨q, hw, h⟩ := Res.bind_eq_ok.1 h
      cases h
      exact ⟨q, rfl, writeAt_length hw⟩

/-- the two counters agree on what happens: incremented, refused, or aborted -/
theorem rrcount_inc_outcome (pp : PP) (s : Section) :
    (∃ n pk, Tr.Counts.rrcount_inc pp.packet s = .ok (n, pk) ∧ rrcountInc pp s = .ok ({ pp with packet := pk }, none) ∧
        pk.length = pp.packet.length) ∨
    (∃ e, Tr.Counts.rrcount_inc pp.packet s = .err e ∧ (rrcountInc pp s = .err e ∨ ∃ pp1, rrcountInc pp s = .ok (pp1, some e))) ∨
    (Tr.Counts.rrcount_inc pp.packet s = .panic ∧ rrcountInc pp s = .panic) ∨
    (Tr.Counts.rrcount_inc pp.packet s = .diverge ∧ rrcountInc pp s = .diverge) := by
  have hinc := rrcount_inc_eq pp s
  -- the outcome of the model decides, through `rrcount_inc_eq`, that of the source
  rcases hm : rrcountInc pp s with ⟨pp1, _ | e⟩ | e | _ | _ <;> rw [hm] at hinc <;>
    cases ht : Tr.Counts.rrcount_inc pp.packet s <;> rw [ht] at hinc <;> try cases hinc
  · rename_i r
    obtain ⟨pk, rfl, hlen⟩ := rrcountInc_ok hm
    obtain rfl : r.2 = pk := Res.ok.inj hinc
    exact .inl ⟨r.1, r.2, rfl, rfl, hlen⟩
  · exact .inr (.inl ⟨e, rfl, .inr ⟨pp1, rfl⟩⟩)
  · exact .inr (.inl ⟨e, rfl, .inl rfl⟩)
  · exact .inr (.inr (.inl ⟨rfl, rfl⟩))
  · exact .inr (.inr (.inr ⟨rfl, rfl⟩))

/-- the path every insertion takes after the first mutation -/
theorem insert_rr_plain (pp : PP) (s : Section) (rr : Bytes) (hmc : pp.maybeCompressed = false) (hoff : OffOK pp) :
    Tr.Counts.insert_rr pp.packet pp.offsetQuestion pp.offsetAnswers pp.offsetNameservers pp.offsetAdditional pp.offsetEdns
        pp.ednsCount pp.extRcode pp.ednsVersion pp.extFlags pp.maybeCompressed pp.cached s rr
      = (insertRR pp s rr >>= insFinish) := by
  unfold Tr.Counts.insert_rr insertRR
  simp only [hmc, Bool.false_eq_true, if_false, Res.pure_eq, Res.bind_ok, Option.isSome_none, Res.bind_assoc, bind_ite,
    insFinish_some]
  refine guard_congr (by simp only [decide_eq_true_eq]) fun _ => ?_
  rcases rrcount_inc_outcome pp s with ⟨n, pk, h1, h2, hlen⟩ | ⟨e, h1, h2 | ⟨pp1, h2⟩⟩ | ⟨h1, h2⟩ | ⟨h1, h2⟩
  · -- the count is incremented: the record goes in at the insertion offset
    have hio := insertion_offset_eq { pp with packet := pk } s
    simp only at hio
    simp only [h1, h2, hio, Res.bind_ok, Option.isSome_none, Bool.false_eq_true, if_false]
    refine Res.bind_congr fun io hI => ?_
    have hle : io ≤ pk.length := insertionOffset_le (pp := { pp with packet := pk })
      ⟨hlen ▸ hoff.1, hlen ▸ hoff.2.1, hlen ▸ hoff.2.2⟩ hI
    rw [if_neg (Nat.not_lt.2 hle)]
    by_cases heq : io = pk.length + rr.length
    · -- nothing to move: the source appends; `rr` is empty and `io` the end of the packet
      obtain rfl : rr = [] := List.length_eq_zero_iff.1 (by omega)
      obtain rfl : io = pk.length := by simpa using heq
      simp only [List.length_nil, Nat.add_zero, beq_self_eq_true, if_true, List.append_nil, List.take_length,
        List.drop_length]
      cases s <;> simp only [beq_iff_eq, reduceCtorEq, if_true, if_false, Res.bind_ok, Res.bind_panic, insFinish_none, ppTup, hmc]
    · rw [if_neg (by simpa using heq), ← Res.bind_assoc, splice_eq pk rr io hle, Res.bind_ok]
      cases s <;> simp only [beq_iff_eq, reduceCtorEq, if_true, if_false, Res.bind_ok, Res.bind_panic, insFinish_none, ppTup, hmc]
  all_goals rw [h1, h2]; rfl

/-- on an object that may hold pointers: decompress, recompute, and go on as on a plain object — the source's two
copies of the code after the `if` are the same code -/
theorem insert_rr_fold (pk : Bytes) (oq oa ons oad oe : Option Nat) (ec : Nat) (er ev ef : Option Nat)
    (mc : Bool) (ca : Option (Bytes × Nat × Nat)) (s : Section) (rr : Bytes) (hmc : mc = true) :
    Tr.Counts.insert_rr pk oq oa ons oad oe ec er ev ef mc ca s rr
      = (uncompress pk >>= fun u => Tr.Counts.recompute u oq oa ons oad oe ec er ev ef mc ca >>= fun r =>
          assert (!r.2.2.2.2.2.2.1) >>= fun _ =>
            Tr.Counts.insert_rr r.1 r.2.1 r.2.2.1 r.2.2.2.1 r.2.2.2.2.1 r.2.2.2.2.2.1 ec er ev ef r.2.2.2.2.2.2.1
              r.2.2.2.2.2.2.2 s rr) := by
  subst hmc
  rw [Tr.Counts.insert_rr, if_pos rfl]
  refine Res.bind_congr fun u _ => Res.bind_congr fun r _ => ?_
  obtain ⟨a, b, c, d, e, f, mc, g⟩ := r
  cases mc
  · rw [Tr.Counts.insert_rr]; rfl
  · rfl

/-- it calls the translated `DNSSector::new` and `parse` -/
theorem recompute_eq (q : PP) :
    Tr.Counts.recompute q.packet q.offsetQuestion q.offsetAnswers q.offsetNameservers q.offsetAdditional q.offsetEdns
        q.ednsCount q.extRcode q.ednsVersion q.extFlags q.maybeCompressed q.cached
      = (q.recompute >>= fun r => match r.2 with | some e => Res.err e | none => Res.ok (ppTup r.1)) := by
  unfold Tr.Counts.recompute PP.recompute
  cases hmc : q.maybeCompressed
  · simp only [ppTup, hmc, Bool.not_false, if_true, Res.pure_eq, Res.bind_ok]
  · simp only [Bool.not_true, Bool.false_eq_true, if_false]
    cases uncompress q.packet with
    | ok u =>
      have hn : Tr.Sector.new u = .ok (u, 0, none, none, 0, none, none, none, 512) := new_eq u
      simp only [Res.bind_ok, hn, parse_eq, Res.bind_assoc]
      cases parse u with
      | ok v =>
        simp only [Res.bind_ok, viewTup]
        simp only [assert, Tr.unwrapOpt, bind_ite, Res.bind_ok, Res.bind_panic, Res.pure_eq, ppTup]
        grind
      | _ => rfl
    | _ => rfl

theorem recompute_ok {q q' : PP} (hmc : q.maybeCompressed = true) (h : q.recompute = .ok (q', none)) :
    q'.maybeCompressed = false ∧ q'.ednsCount = q.ednsCount ∧ q'.extRcode = q.extRcode ∧ q'.ednsVersion = q.ednsVersion ∧
      q'.extFlags = q.extFlags ∧ q'.maxPayload = q.maxPayload := by
  unfold PP.recompute at h
  simp only [hmc, Bool.not_true, Bool.false_eq_true, if_false] at h
  cases hu : uncompress q.packet <;> simp [hu] at h
  rename_i u
  cases hp : parse u <;> simp [hp] at h
  split at h
  · simp at h
  · simp at h; subst h; simp

theorem insert_rr_compressed (pp : PP) (s : Section) (rr : Bytes) (hmc : pp.maybeCompressed = true)
    (hoff : ∀ u q, uncompress pp.packet = .ok u → ({ pp with packet := u } : PP).recompute = .ok (q, none) → OffOK q) :
    Tr.Counts.insert_rr pp.packet pp.offsetQuestion pp.offsetAnswers pp.offsetNameservers pp.offsetAdditional pp.offsetEdns
        pp.ednsCount pp.extRcode pp.ednsVersion pp.extFlags pp.maybeCompressed pp.cached s rr
      = (insertRR pp s rr >>= insFinish) := by
  rw [insert_rr_fold (hmc := hmc)]
  cases hu : uncompress pp.packet with
  | ok u =>
    have hrf := recompute_eq ({ pp with packet := u } : PP)
    simp only at hrf
    rw [Res.bind_ok, hrf, Res.bind_assoc]
    cases hr : ({ pp with packet := u } : PP).recompute with
    | ok r =>
      obtain ⟨q, e⟩ := r
      cases e with
      | some e =>
        unfold insertRR
        simp only [if_pos hmc, hu, hr, Res.bind_ok, Res.bind_err, Res.pure_eq, Option.isSome_some, if_true, insFinish_some]
      | none =>
        obtain ⟨q1, q2, q3, q4, q5, -⟩ := recompute_ok (q := ({ pp with packet := u } : PP)) hmc hr
        simp only [Res.bind_ok, ppTup, q1, assert, Bool.not_false, if_true]
        -- the model too goes on as on the plain object `q`
        have hfold : insertRR pp s rr = insertRR q s rr := by
          unfold insertRR
          simp only [if_pos hmc, hu, hr, q1, Bool.false_eq_true, if_false, Res.bind_ok, Res.pure_eq]
        rw [hfold, ← insert_rr_plain q s rr q1 (hoff u q hu hr), q1, q2, q3, q4, q5]
    | _ => unfold insertRR; simp only [if_pos hmc, hu, hr]; rfl
  | _ => unfold insertRR; simp only [if_pos hmc, hu]; rfl

end Dns.Tie
