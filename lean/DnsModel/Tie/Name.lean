/-
  The two untrusted-name validators as translated from the current source (`Generated/TrName.lean`:
  `Compress::check_compressed_name`, `DNSSector::check_uncompressed_name`) are the functions `checkCompressedName` /
  `checkUncompressedName` of the hand-written model, about which C01, C02 and C18 are proved.

  The proofs survive behaviour-preserving rewrites of the Rust text: `a ≥ n - b` against `b + a ≥ n`, `x as usize`
  against `usize::from(x)`, renamed locals or reordered independent statements do not matter; a changed
  comparison, limit, mask or update does.
-/
import DnsModel.Name
import DnsModel.Generated.TrName
import DnsModel.Tie.Basic
namespace Dns.Tie
open Dns

/-- the closure of `.iter().any(..)` in `check_compressed_name` is the model's `badChar` -/
theorem bad_char_eq (c : Nat) :
    ((((decide (c < 32) || c == 127) || (c == 0x2e)) || (c == 0x5c)) || (c == 0)) = badChar c := by
  unfold badChar; grind

/- The loop lemmas quantify over the loop variables one by one (not over a state record), so that the
induction hypothesis rewrites the recursive call whatever its arguments are. -/

theorem cun_loop_eq (p : Bytes) (fuel off nl : Nat) :
    Tr.Name.check_uncompressed_name_loop p p.length fuel nl off = cunLoop p fuel off nl := by
  induction fuel generalizing off nl with
  | zero => rfl
  | succ n ih =>
    unfold Tr.Name.check_uncompressed_name_loop cunLoop
    rcases idx_cases p off with ⟨len, hi, hbyte, hb⟩ | hi
    · have hlt := byteAt_lt_length hbyte
      simp only [hi, ih, sub, isPtr, bind_ite, Res.bind_ok, Res.bind_panic, Res.pure_eq]
      grind
    · simp only [hi, Res.bind_panic]
      grind

theorem check_uncompressed_name_eq (p : Bytes) (off : Nat) :
    Tr.Name.check_uncompressed_name p off = checkUncompressedName p off := by
  unfold Tr.Name.check_uncompressed_name checkUncompressedName
  simp only [cun_loop_eq, sub, nameFuel, bind_ite, Res.bind_ok, Res.bind_panic]
  grind

theorem ccn_loop_eq (p : Bytes) (fuel refs : Nat) (fin : Option Nat) (off bar low nl : Nat) :
    Tr.Name.check_compressed_name_loop p p.length fuel refs fin off bar low nl
      = ccnLoop p fuel ⟨off, nl, bar, low, fin, refs⟩ := by
  induction fuel generalizing refs fin off bar low nl with
  | zero => rfl
  | succ n ih =>
    unfold Tr.Name.check_compressed_name_loop ccnLoop
    rcases idx_cases p off with ⟨len, hi, hbyte, hb⟩ | hi
    · have hlt := byteAt_lt_length hbyte
      -- six bits shifted by eight fit the `u16` the source computes the target in
      have hu16 : (len &&& 0x3f) <<< 8 < 65536 := by
        have : len &&& 0x3f ≤ 0x3f := Nat.and_le_right
        rw [Nat.shiftLeft_eq]; omega
      simp only [hi, ih, isPtr, Nat.mod_eq_of_lt hu16, Res.bind_ok]
      clear hu16
      by_cases hptr : (len &&& 0xc0 == 0xc0) = true
      · -- a pointer: the second byte, then the byte it designates
        simp only [hptr, if_true, sub, bind_ite, Res.bind_ok, Res.bind_panic, Res.pure_eq]
        rcases idx_cases p (off + 1) with ⟨lo, hlo, -, hlolt⟩ | hlo
        · simp only [hlo, Res.bind_ok]
          -- the target is opaque to the comparison of the two sides
          generalize (len &&& 0x3f) <<< 8 ||| lo = ref
          rcases idx_cases p ref with ⟨t, ht, -, htlt⟩ | ht
          · simp only [ht, bind_ite, Res.bind_ok, Res.pure_eq]
            grind
          · simp only [ht, bind_ite, Res.bind_panic]
            grind
        · simp only [hlo, Res.bind_panic]
          grind
      · -- a label
        simp only [hptr, Bool.false_eq_true, if_false, sub, slice, labelHasBadChar, bind_ite, Res.bind_ok,
          Res.bind_panic, bad_char_eq]
        grind
    · simp only [hi, Res.bind_panic]
      grind

theorem check_compressed_name_eq (p : Bytes) (off : Nat) :
    Tr.Name.check_compressed_name p off = checkCompressedName p off := by
  unfold Tr.Name.check_compressed_name checkCompressedName
  simp only [ccn_loop_eq, sub, nameFuel, bind_ite, Res.bind_ok, Res.bind_panic]
  grind

end Dns.Tie
