/-
  The cursor primitives and field loaders of `DNSSector` (dns_sector.rs), as translated from the current source
  (`Generated/TrSector.lean`), are the functions of the hand-written model (`Sector.lean`).  The translation passes
  the fields a method reads as parameters and returns the fields it writes; the model keeps them in the record
  `Sector`.
-/
import DnsModel.Sector
import DnsModel.Generated.TrSector
import DnsModel.Tie.Basic
namespace Dns.Tie
open Dns Dns.Sector

/- the `s_` lemmas are about the loaders of `DNSSector`, which `ParsedPacket` has under the same names (Tie/Counts.lean) -/
theorem s_qdcount_eq (p : Bytes) : Tr.Sector.qdcount p = be16 p 4 := res_bind_pure _

theorem s_ancount_eq (p : Bytes) : Tr.Sector.ancount p = be16 p 6 := res_bind_pure _

theorem s_nscount_eq (p : Bytes) : Tr.Sector.nscount p = be16 p 8 := res_bind_pure _

theorem s_arcount_eq (p : Bytes) : Tr.Sector.arcount p = be16 p 10 := res_bind_pure _

/-- the model's `parse` computes `is_response` inline as `flags &&& DNS_FLAG_QR == DNS_FLAG_QR` -/
theorem s_is_response_eq (p : Bytes) :
    Tr.Sector.is_response p = (be16 p DNS_FLAGS_OFFSET >>= fun f => Res.ok (f &&& DNS_FLAG_QR == DNS_FLAG_QR)) := rfl

theorem remaining_len_eq (p : Bytes) (s : Sector) : Tr.Sector.remaining_len p s.offset = remainingLen p s :=
  res_bind_pure _

theorem ensure_remaining_len_eq (p : Bytes) (s : Sector) (len : Nat) :
    Tr.Sector.ensure_remaining_len p s.offset len = ensureRemainingLen p s len := by
  simp only [Tr.Sector.ensure_remaining_len, ensureRemainingLen, remaining_len_eq, failIf]

theorem set_offset_eq (p : Bytes) (s : Sector) (o : Nat) :
    Tr.Sector.set_offset p s.offset o = (setOffset p s o >>= fun r => Res.ok (r.2, r.1.offset)) := by
  unfold Tr.Sector.set_offset setOffset
  by_cases h : o ≥ p.length <;> simp [h]

theorem set_offset_frame (p : Bytes) (s s' : Sector) (o old : Nat) (h : setOffset p s o = .ok (s', old)) :
    s' = { s with offset := s'.offset } := by
  unfold setOffset at h
  split at h <;> simp at h
  obtain ⟨h1, _⟩ := h
  subst h1; rfl

theorem increment_offset_eq (p : Bytes) (s : Sector) (n : Nat) :
    Tr.Sector.increment_offset p s.offset n = (incrementOffset p s n >>= fun r => Res.ok (r.2, r.1.offset)) := by
  simp only [Tr.Sector.increment_offset, incrementOffset, ensure_remaining_len_eq, Res.bind_assoc, Res.pure_eq, Res.bind_ok]

theorem u8_load_eq (p : Bytes) (s : Sector) (r : Nat) : Tr.Sector.u8_load p s.offset r = u8Load p s r := by
  simp only [Tr.Sector.u8_load, u8Load, ensure_remaining_len_eq, res_bind_pure]

theorem be16_load_eq (p : Bytes) (s : Sector) (r : Nat) : Tr.Sector.be16_load p s.offset r = be16Load p s r := by
  simp only [Tr.Sector.be16_load, be16Load, ensure_remaining_len_eq, res_bind_pure]

theorem rr_type_eq (p : Bytes) (s : Sector) : Tr.Sector.rr_type p s.offset = rrType p s := by
  simp only [Tr.Sector.rr_type, rrType, be16_load_eq, res_bind_pure]

theorem rr_class_eq (p : Bytes) (s : Sector) : Tr.Sector.rr_class p s.offset = rrClass p s := by
  simp only [Tr.Sector.rr_class, rrClass, be16_load_eq, res_bind_pure]

theorem rr_rdlen_eq (p : Bytes) (s : Sector) : Tr.Sector.rr_rdlen p s.offset = rrRdlen p s := by
  simp only [Tr.Sector.rr_rdlen, rrRdlen, be16_load_eq, res_bind_pure]

theorem edns_remaining_len_eq (s : Sector) : Tr.Sector.edns_remaining_len s.offset s.ednsEnd = ednsRemainingLen s := by
  unfold Tr.Sector.edns_remaining_len ednsRemainingLen
  cases s.ednsEnd <;> simp only [res_bind_pure]

theorem edns_ensure_remaining_len_eq (s : Sector) (len : Nat) :
    Tr.Sector.edns_ensure_remaining_len s.offset s.ednsEnd len = ednsEnsureRemainingLen s len := by
  simp only [Tr.Sector.edns_ensure_remaining_len, ednsEnsureRemainingLen, edns_remaining_len_eq, failIf]

theorem edns_increment_offset_eq (s : Sector) (n : Nat) :
    Tr.Sector.edns_increment_offset s.offset s.ednsEnd n
      = (ednsIncrementOffset s n >>= fun s' => Res.ok (s.offset, s'.offset)) := by
  simp only [Tr.Sector.edns_increment_offset, ednsIncrementOffset, edns_ensure_remaining_len_eq, Res.bind_assoc,
    Res.pure_eq, Res.bind_ok]

theorem edns_be16_load_eq (p : Bytes) (s : Sector) (r : Nat) :
    Tr.Sector.edns_be16_load p s.offset s.ednsEnd r = ednsBe16Load p s r := by
  unfold Tr.Sector.edns_be16_load ednsBe16Load
  rw [edns_ensure_remaining_len_eq]
  refine Res.bind_congr fun _ _ => Res.bind_congr fun hi h1 => Res.bind_congr fun lo h2 => ?_
  -- the source's `(hi as u16) << 8 | lo` on two bytes is `hi * 256 + lo`
  have hm : hi <<< 8 % 65536 = 2 ^ 8 * hi := by rw [Nat.shiftLeft_eq]; have := (idx_lt h1).2; omega
  rw [hm, ← Nat.two_pow_add_eq_or_of_lt (idx_lt h2).2, Nat.mul_comm]; rfl

theorem edns_rr_rdlen_eq (p : Bytes) (s : Sector) :
    Tr.Sector.edns_rr_rdlen p s.offset s.ednsEnd = ednsRrRdlen p s := by
  simp only [Tr.Sector.edns_rr_rdlen, ednsRrRdlen, edns_be16_load_eq, res_bind_pure]

/-! The other direction, for the callers' ties: a model call that moves the cursor is the translated call followed by
the record update.  Rewriting a model function with these (and the loaders above, right to left) turns it into
the calls its translation makes, and no field of the record has to be traced. -/

theorem setOffset_rev (p : Bytes) (s : Sector) (o : Nat) :
    setOffset p s o = (Tr.Sector.set_offset p s.offset o >>= fun r => Res.ok ({ s with offset := r.2 }, r.1)) := by
  unfold setOffset Tr.Sector.set_offset
  split <;> simp [*]

theorem incrementOffset_rev (p : Bytes) (s : Sector) (n : Nat) :
    incrementOffset p s n
      = (Tr.Sector.increment_offset p s.offset n >>= fun r => Res.ok ({ s with offset := r.2 }, r.1)) := by
  simp only [Tr.Sector.increment_offset, incrementOffset, ensure_remaining_len_eq, Res.bind_assoc, Res.pure_eq,
    Res.bind_ok]

end Dns.Tie
