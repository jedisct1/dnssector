/-
  The whole validator: `DNSSector::new`, `parse`, `parse_question`, `parse_rr`, `parse_opt` and their helpers, as
  translated from the current text of dns_sector.rs (`Generated/TrSector.lean`), compute what the hand-written model
  `parse` (Sector.lean) computes — the function C01, C02 and C18 are proved about.

  The translated methods take the `DNSSector` fields they read as parameters and return those they write; the
  model keeps them in the record `Sector`; `tup` is the correspondence.  `edns_count += 1` is an overflow-checked u16
  addition in the source and unbounded in the model: `parse_opt_loop_eq` shows the check can never fire (an option
  takes at least four bytes of a data length below 65536).
-/
import DnsModel.Tie.Sector
import DnsModel.Tie.Name
namespace Dns.Tie
open Dns Dns.Sector

/-- the fields of `DNSSector` other than the packet, as the translated methods return them -/
def tup (s : Sector) : Nat × Option Nat × Option Nat × Nat × Option Nat × Option Nat × Option Nat × Nat :=
  (s.offset, s.ednsStart, s.ednsEnd, s.ednsCount, s.extRcode, s.ednsVersion, s.extFlags, s.maxPayload)

theorem skipName_rev (p : Bytes) (s : Sector) :
    skipName p s = (Tr.Sector.skip_name p s.offset >>= fun o => Res.ok { s with offset := o }) := by
  unfold skipName Tr.Sector.skip_name Tr.Sector.check_compressed_name_at
  simp only [setOffset_rev, check_compressed_name_eq, Res.bind_assoc, Res.bind_ok, Res.pure_eq]

theorem ensure_in_class_eq (p : Bytes) (s : Sector) : Tr.Sector.ensure_in_class p s.offset = ensureInClass p s := by
  simp only [Tr.Sector.ensure_in_class, ensureInClass, rr_class_eq, failIf]

theorem parseQuestion_rev (p : Bytes) (s : Sector) :
    parseQuestion p s = (Tr.Sector.parse_question p s.offset >>= fun o => Res.ok { s with offset := o }) := by
  unfold parseQuestion Tr.Sector.parse_question
  simp only [skipName_rev, incrementOffset_rev, ← ensure_in_class_eq, ← rr_class_eq, Res.bind_assoc, failIf_bind,
    bind_ite, Res.bind_ok, Res.bind_err, Res.pure_eq]

theorem parse_question_eq (p : Bytes) (s : Sector) :
    Tr.Sector.parse_question p s.offset = (parseQuestion p s >>= fun s' => Res.ok s'.offset) := by
  simp only [parseQuestion_rev, Res.bind_assoc, Res.bind_ok, res_bind_pure]

theorem edns_skip_rr_eq (p : Bytes) (s : Sector) :
    Tr.Sector.edns_skip_rr p s.offset s.ednsEnd = (ednsSkipRr p s >>= fun s' => Res.ok s'.offset) := by
  unfold Tr.Sector.edns_skip_rr ednsSkipRr
  simp only [edns_rr_rdlen_eq, edns_increment_offset_eq, Res.bind_assoc, Res.bind_ok]

/-- what is left of the option area, as `parse_opt_loop_eq` measures it -/
theorem ednsRemainingLen_ok {s : Sector} {r : Nat} (h : ednsRemainingLen s = .ok r) :
    r = match s.ednsEnd with | some e => e - s.offset | none => 0 := by
  unfold ednsRemainingLen sub at h
  cases he : s.ednsEnd with
  | none => rw [he] at h; exact (Res.ok.inj h).symm
  | some e =>
    simp only [he] at h
    split at h
    · exact (Res.ok.inj h).symm
    · cases h

theorem ednsSkipRr_ok {p : Bytes} {s s1 : Sector} {r : Nat} (hr : ednsRemainingLen s = .ok r)
    (h : ednsSkipRr p s = .ok s1) : ∃ l, s1 = { s with offset := s.offset + (4 + l) } ∧ 4 + l ≤ r := by
  obtain ⟨l, -, h⟩ := Res.bind_eq_ok.1 h
  refine ⟨l, ?_⟩
  unfold ednsIncrementOffset ednsEnsureRemainingLen at h
  simp only [hr, Res.bind_ok, failIf, DNS_EDNS_RR_HEADER_SIZE] at h
  split at h
  · cases h
  · rename_i hlt
    exact ⟨(Res.ok.inj h).symm, by simp only [decide_eq_true_eq] at hlt; omega⟩

theorem parse_opt_loop_eq (p : Bytes) (fuel : Nat) (s : Sector)
    (hb : s.ednsCount + (match s.ednsEnd with | some e => e - s.offset | none => 0) / 4 < 65536) :
    Tr.Sector.parse_opt_loop p s.ednsStart s.ednsEnd s.extRcode s.ednsVersion s.extFlags s.maxPayload fuel
        s.offset s.ednsCount
      = (optLoop p fuel s >>= fun s' => Res.ok (tup s')) := by
  induction fuel generalizing s with
  | zero => rfl
  | succ n ih =>
    unfold Tr.Sector.parse_opt_loop optLoop
    rw [edns_remaining_len_eq, Res.bind_assoc]
    refine Res.bind_congr fun r hr => ?_
    have hrem := ednsRemainingLen_ok hr
    by_cases hpos : r > 0
    · simp only [hpos, decide_true, if_true, edns_skip_rr_eq, Res.bind_assoc, Res.bind_ok]
      refine Res.bind_congr fun s1 hs => ?_
      obtain ⟨l, rfl, hl⟩ := ednsSkipRr_ok hr hs
      have hc : s.ednsCount + 1 < 65536 := by omega
      simp only [Tr.checked, hc, if_true, Res.bind_ok]
      refine ih { s with offset := s.offset + (4 + l), ednsCount := s.ednsCount + 1 } ?_
      cases he : s.ednsEnd <;> simp only [he] at hrem hb ⊢ <;> omega
    · obtain rfl : r = 0 := by omega
      simp only [hr, hpos, decide_false, Bool.false_eq_true, if_false, Res.bind_ok, assert, beq_self_eq_true, if_true,
        Res.pure_eq, tup]

theorem be16Load_lt {p : Bytes} {s : Sector} {r v : Nat} (h : be16Load p s r = .ok v) : v < 65536 := by
  obtain ⟨_, -, h⟩ := Res.bind_eq_ok.1 h
  obtain ⟨-, h⟩ := be16_bind_ok.1 ((Res.bind_pure _).trans h)
  exact Res.ok.inj h ▸ get16_lt p _

theorem parse_opt_eq (p : Bytes) (s : Sector) :
    Tr.Sector.parse_opt p s.offset s.ednsStart s.ednsEnd s.ednsCount s.extRcode s.ednsVersion s.extFlags s.maxPayload
      = (parseOpt p s >>= fun s' => Res.ok (tup s')) := by
  unfold Tr.Sector.parse_opt parseOpt Tr.Sector.opt_rr_max_payload Tr.Sector.opt_rr_ext_rcode
    Tr.Sector.opt_rr_edns_version Tr.Sector.opt_rr_edns_ext_flags Tr.Sector.opt_rr_rdlen
  simp only [be16_load_eq, u8_load_eq, res_bind_pure, incrementOffset_rev, ← ensure_remaining_len_eq, failIf_bind,
    Res.bind_assoc, Res.bind_ok, bind_ite, Res.bind_err]
  refine guard_congr Iff.rfl fun _ => ?_
  refine Res.bind_congr fun rc _ => Res.bind_congr fun ver _ => Res.bind_congr fun mp _ => Res.bind_congr fun fl _ =>
    Res.bind_congr fun len hl => Res.bind_congr fun r _ => Res.bind_congr fun _ _ => ?_
  exact parse_opt_loop_eq p _
    { s with offset := r.2, extRcode := some rc, ednsVersion := some ver, maxPayload := mp, extFlags := some fl,
             ednsStart := some r.2, ednsEnd := some (r.2 + len), ednsCount := 0 }
    (by have := be16Load_lt hl; simp only; omega)

theorem parseOpt_rev (p : Bytes) (s : Sector) :
    parseOpt p s = (Tr.Sector.parse_opt p s.offset s.ednsStart s.ednsEnd s.ednsCount s.extRcode s.ednsVersion s.extFlags s.maxPayload
      >>= fun (o, es, ee, ec, er, ev, ef, mp) =>
        Res.ok { offset := o, ednsStart := es, ednsEnd := ee, ednsCount := ec, extRcode := er, ednsVersion := ev,
                 extFlags := ef, maxPayload := mp }) := by
  rw [parse_opt_eq, Res.bind_assoc]
  exact (res_bind_pure _).symm

theorem parse_rr_eq (p : Bytes) (s : Sector) (sec : Section) :
    Tr.Sector.parse_rr p s.offset s.ednsStart s.ednsEnd s.ednsCount s.extRcode s.ednsVersion s.extFlags s.maxPayload sec
      = (parseRR p s sec >>= fun s' => Res.ok (tup s')) := by
  unfold Tr.Sector.parse_rr parseRR
  simp only [skipName_rev, incrementOffset_rev, parseOpt_rev, ← rr_type_eq, ← rr_rdlen_eq,
    ← check_compressed_name_eq, ← check_uncompressed_name_eq, Res.bind_assoc, failIf_bind, Res.bind_ok, Res.pure_eq, tup]
  refine Res.bind_congr fun o _ => Res.bind_congr fun ty _ => Res.bind_congr fun len _ => ?_
  -- both sides dispatch on the type in the same way; the arms are compared one by one
  refine ite_bind_congr (fun _ => ?opt) fun _ => ite_bind_congr (fun _ => ?name) fun _ => ite_bind_congr (fun _ => ?mx)
    fun _ => ite_bind_congr (fun _ => ?soa) fun _ => ite_bind_congr (fun _ => ?dname) fun _ =>
    ite_bind_congr (fun _ => ?a) fun _ => ite_bind_congr (fun _ => ?aaaa) fun _ => ?other
  case opt | a | aaaa =>
    simp only [bind_ite, Res.bind_assoc, Res.bind_ok, Res.bind_err] <;> grind
  case name | mx | dname =>
    simp only [bind_ite, Res.bind_err, Res.bind_assoc]
    refine guard_congr (by grind) fun _ => Res.bind_congr fun x _ => Res.bind_congr fun fin _ => ?_
    simp only [sub, bind_ite, Res.bind_ok, Res.bind_panic] <;> grind
  case soa =>
    simp only [bind_ite, Res.bind_err, Res.bind_assoc]
    refine guard_congr (by grind) fun _ => Res.bind_congr fun x _ => Res.bind_congr fun fin1 _ => Res.bind_congr fun fin2 _ => ?_
    simp only [sub, bind_ite, Res.bind_ok, Res.bind_panic] <;> grind
  case other =>
    simp only [Res.bind_assoc, Res.bind_ok]

/-- a section loop of the source is the model's `parseRRs` followed by the code after the loop -/
theorem parseRRs_fold {β} (p : Bytes) (sec : Section) (F : Nat → Sector → Res β)
    (h : ∀ n s, F (n + 1) s = (parseRR p s sec >>= F n)) (n : Nat) (s : Sector) :
    F n s = (parseRRs p sec n s >>= F 0) := by
  induction n generalizing s with
  | zero => rfl
  | succ n ih =>
    rw [h, parseRRs, Res.bind_assoc]
    exact Res.bind_congr fun s1 _ => ih s1

theorem parse_for3_eq (p : Bytes) (oq oa ons oad : Option Nat) (n : Nat) (s : Sector) :
    Tr.Sector.parse_for3 p oq oa ons oad n s.offset s.ednsStart s.ednsEnd s.ednsCount s.extRcode s.ednsVersion s.extFlags s.maxPayload
      = (parseRRs p .additional n s >>= fun s' =>
          Tr.Sector.parse_for3 p oq oa ons oad 0 s'.offset s'.ednsStart s'.ednsEnd s'.ednsCount s'.extRcode s'.ednsVersion s'.extFlags s'.maxPayload) :=
  parseRRs_fold p .additional
    (fun n s => Tr.Sector.parse_for3 p oq oa ons oad n s.offset s.ednsStart s.ednsEnd s.ednsCount s.extRcode s.ednsVersion
      s.extFlags s.maxPayload)
    (fun n s => by simp only [Tr.Sector.parse_for3, parse_rr_eq, Res.bind_assoc, Res.bind_ok, tup]) n s

theorem parse_for2_eq (p : Bytes) (oq oa ons : Option Nat) (n : Nat) (s : Sector) :
    Tr.Sector.parse_for2 p oq oa ons n s.offset s.ednsStart s.ednsEnd s.ednsCount s.extRcode s.ednsVersion s.extFlags s.maxPayload
      = (parseRRs p .nameServers n s >>= fun s' =>
          Tr.Sector.parse_for2 p oq oa ons 0 s'.offset s'.ednsStart s'.ednsEnd s'.ednsCount s'.extRcode s'.ednsVersion s'.extFlags s'.maxPayload) :=
  parseRRs_fold p .nameServers
    (fun n s => Tr.Sector.parse_for2 p oq oa ons n s.offset s.ednsStart s.ednsEnd s.ednsCount s.extRcode s.ednsVersion
      s.extFlags s.maxPayload)
    (fun n s => by simp only [Tr.Sector.parse_for2, parse_rr_eq, Res.bind_assoc, Res.bind_ok, tup]) n s

theorem parse_for1_eq (p : Bytes) (isr : Bool) (oq oa : Option Nat) (n : Nat) (s : Sector) :
    Tr.Sector.parse_for1 p isr oq oa n s.offset s.ednsStart s.ednsEnd s.ednsCount s.extRcode s.ednsVersion s.extFlags s.maxPayload
      = (parseRRs p .answer n s >>= fun s' =>
          Tr.Sector.parse_for1 p isr oq oa 0 s'.offset s'.ednsStart s'.ednsEnd s'.ednsCount s'.extRcode s'.ednsVersion s'.extFlags s'.maxPayload) :=
  parseRRs_fold p .answer
    (fun n s => Tr.Sector.parse_for1 p isr oq oa n s.offset s.ednsStart s.ednsEnd s.ednsCount s.extRcode s.ednsVersion
      s.extFlags s.maxPayload)
    (fun n s => by simp only [Tr.Sector.parse_for1, parse_rr_eq, Res.bind_assoc, Res.bind_ok, tup]) n s

/-- what `ParsedPacket { .. }` holds, in the order the source writes the fields -/
def viewTup (p : Bytes) (v : View) :=
  (some p, v.offsetQuestion, v.offsetAnswers, v.offsetNameservers, v.offsetAdditional, v.offsetEdns, v.extRcode,
    v.ednsVersion, v.extFlags, v.ednsCount, true, v.maxPayload, (none : Option Unit))

theorem new_eq (p : Bytes) : Tr.Sector.new p = .ok (p, tup Sector.new) := by
  simp [Tr.Sector.new, tup, Sector.new]

theorem parse_eq (p : Bytes) :
    Tr.Sector.parse p 0 none none 0 none none none 512 = (parse p >>= fun v => Res.ok (viewTup p v)) := by
  unfold Tr.Sector.parse parse
  simp only [s_is_response_eq, s_qdcount_eq, s_ancount_eq, setOffset_rev, parseQuestion_rev, Res.bind_assoc,
    failIf_bind, Res.bind_ok, Res.pure_eq, Sector.new, bind_ite, Res.bind_err]
  refine guard_congr Iff.rfl fun _ => Res.bind_congr fun fl _ => Res.bind_congr fun qd _ => ?_
  refine guard_congr Iff.rfl fun h0 => guard_congr Iff.rfl fun h1 => Res.bind_congr fun x _ => ?_
  -- exactly one question: the source's branch for `qdcount == 0` is dead
  obtain rfl : qd = 1 := by grind
  simp only [assert, bne_iff_ne, ne_eq, Nat.one_ne_zero, not_false_eq_true, if_true, beq_self_eq_true, Res.bind_ok,
    gt_iff_lt, Nat.zero_lt_one, decide_true]
  refine Res.bind_congr fun o _ => Res.bind_congr fun an _ => guard_congr Iff.rfl fun _ => ?_
  refine (parse_for1_eq p _ _ _ an { offset := o }).trans (Res.bind_congr fun s1 _ => ?_)
  simp only [Tr.Sector.parse_for1, s_nscount_eq]
  refine Res.bind_congr fun ns _ => guard_congr Iff.rfl fun _ => ?_
  refine (parse_for2_eq p _ _ _ ns s1).trans (Res.bind_congr fun s2 _ => ?_)
  simp only [Tr.Sector.parse_for2, s_arcount_eq]
  refine Res.bind_congr fun ar _ => (parse_for3_eq p _ _ _ _ ar s2).trans (Res.bind_congr fun s3 _ => ?_)
  simp only [Tr.Sector.parse_for3, remaining_len_eq]
  refine Res.bind_congr fun r _ => ?_
  simp only [decide_eq_true_eq, gt_iff_lt, viewTup]

end Dns.Tie
