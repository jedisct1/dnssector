/-
  `copy_raw_name_from_str` (synth/gen.rs), the host-name text → wire conversion C14 is about (and every record
  builder of C13 goes through), as translated from the current source (`Generated/TrText.lean`) is the model
  function `copyRawNameFromStr` (Synth.lean).

  The source slices `name[label_start..i]` / `name[label_start..]` (panicking out of range) and increments a `u8`
  counter (panicking on overflow); the model uses `drop`/`take` and `Nat`.  The loop lemma carries the invariant
  that makes them agree: a label in progress started at or before the current index, and is at most 62 bytes long.
-/
import DnsModel.Synth
import DnsModel.Generated.TrText
import DnsModel.Tie.Reader
namespace Dns.Tie
open Dns

def NameInv (i : Nat) (st : NameSt) : Prop :=
  st.labelLen ≤ 62 ∧ (st.labelLen > 0 → st.labelStart ≤ i)

theorem name_loop_eq (name : Bytes) (rest : Bytes) (i : Nat) (st : NameSt)
    (hi : i + rest.length = name.length) (inv : NameInv i st) :
    Tr.Text.copy_raw_name_from_str_each1 name rest i st.out st.labelLen st.labelStart
        = (rawNameLoop name rest i st >>= fun st' => Res.ok (st'.out, st'.labelLen, st'.labelStart)) ∧
      ∀ st', rawNameLoop name rest i st = .ok st' → NameInv name.length st' ∧ st.out.length ≤ st'.out.length := by
  induction rest generalizing i st with
  | nil =>
    simp only [List.length_nil, Nat.add_zero] at hi
    subst hi
    exact ⟨by simp [Tr.Text.copy_raw_name_from_str_each1, rawNameLoop], by
      intro st' h; simp [rawNameLoop] at h; subst h; exact ⟨inv, Nat.le_refl _⟩⟩
  | cons c rest ih =>
    obtain ⟨hl, hs⟩ := inv
    simp only [List.length_cons] at hi
    unfold Tr.Text.copy_raw_name_from_str_each1 rawNameLoop
    have hc : (c.toNat == 0x2e) = (c == 46) := (u8_beq c 46).symm
    simp only [hc]
    by_cases hdot : (c == 46) = true
    · by_cases h0 : st.labelLen = 0
      · -- a dot with no label in progress
        simp only [hdot, h0, beq_self_eq_true, Bool.and_self, if_true]
        by_cases h1 : name.length = 1
        · have := ih (i + 1) st (by omega) ⟨hl, by omega⟩
          simp only [h0] at this
          simpa [h1] using this
        · simp [h1]
      · -- a dot closing a label
        have h0' : (st.labelLen == 0) = false := by simpa using h0
        simp only [hdot, h0', Bool.and_false, Bool.false_eq_true, if_false, if_true]
        rw [slice_ok ⟨hs (by omega), by omega⟩]
        have := ih (i + 1) ⟨st.out ++ [UInt8.ofNat st.labelLen] ++ (name.drop st.labelStart).take (i - st.labelStart), 0,
          st.labelStart⟩ (by omega) ⟨by simp, by simp⟩
        refine ⟨by simpa using this.1, ?_⟩
        intro st' h
        obtain ⟨g1, g2⟩ := this.2 st' (by simpa using h)
        refine ⟨g1, ?_⟩
        simp only [List.length_append] at g2
        omega
    · simp only [hdot, Bool.false_and, Bool.false_eq_true, if_false]
      by_cases h62 : st.labelLen ≥ 63 - 1
      · have : st.labelLen ≥ 0x3e := h62
        simp [this, h62]
      · have h62' : ¬ st.labelLen ≥ 0x3e := h62
        simp only [h62, h62', decide_false, Bool.false_eq_true, if_false]
        by_cases h128 : c.toNat > 128
        · have : c.toNat > 0x80 := h128
          simp [h128, this]
        · have h128' : ¬ c.toNat > 0x80 := h128
          simp only [h128, h128', decide_false, Bool.false_eq_true, if_false]
          have hck : Tr.checked 256 (st.labelLen + 1) = .ok (st.labelLen + 1) := by
            simp [Tr.checked]; omega
          by_cases h0 : st.labelLen = 0
          · have := ih (i + 1) { st with labelStart := i, labelLen := 1 } (by omega) ⟨by simp, by simp⟩
            simp only [h0] at hck
            simpa [h0, hck] using this
          · have h0' : (st.labelLen == 0) = false := by simpa using h0
            have := ih (i + 1) { st with labelLen := st.labelLen + 1 } (by omega) ⟨by simp; omega, by intro _; simp; omega⟩
            simpa [h0', hck] using this

theorem copy_raw_name_from_str_eq (raw name : Bytes) (zone : Option Bytes) :
    Tr.Text.copy_raw_name_from_str raw name zone = copyRawNameFromStr raw name zone := by
  unfold Tr.Text.copy_raw_name_from_str copyRawNameFromStr
  obtain ⟨heq, hinv⟩ := name_loop_eq name name 0 { out := raw } (by simp) ⟨by simp, by simp⟩
  simp only at heq
  simp only [heq, failIf_bind, Res.bind_assoc, Res.bind_ok, Res.pure_eq]
  refine guard_congr Iff.rfl fun _ => Res.bind_congr fun st hl => ?_
  obtain ⟨⟨_, hs⟩, hgrow⟩ := hinv st hl
  simp only at hgrow
  by_cases h0 : st.labelLen = 0
  · simp only [h0, beq_self_eq_true, if_true]
    -- the output only grew (`hgrow`), so the source's checked subtraction of the initial length succeeds
    rw [sub_ok (by simp only [List.length_append]; omega)]
    simp only [assert, DNS_MAX_HOSTNAME_LEN, bind_ite, Res.bind_ok, Res.bind_panic]
    grind
  · have h0' : (st.labelLen == 0) = false := by simpa using h0
    simp only [h0', Bool.false_eq_true, if_false, sliceFrom_ok (hs (by omega)), Res.bind_ok]
    cases zone
    all_goals
      simp only
      rw [sub_ok (by simp only [List.length_append]; omega)]
      simp only [assert, DNS_MAX_HOSTNAME_LEN, bind_ite, Res.bind_ok, Res.bind_panic]
      grind

end Dns.Tie
