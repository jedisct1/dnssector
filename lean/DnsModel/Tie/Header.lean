/-
  The header getters and setters of `parsed_packet.rs`, as translated from the current source by rs2lean.py
  (`Generated/TrHeader.lean`), are the functions of the hand-written model (`Packet.lean`) about which C04 and C12
  are proved.  A change of the Rust source changes the translation; these equalities then stop checking.
-/
import DnsModel.Lemmas.Header
import DnsModel.Generated.TrHeader
import DnsModel.Tie.Basic
namespace Dns.Tie
open Dns

theorem tid_eq (p : Bytes) : Tr.Header.tid p = hTid p := by
  simp [Tr.Header.tid, hTid, res_bind_pure]

theorem set_tid_eq (p : Bytes) (tid : Nat) : Tr.Header.set_tid p tid = hSetTid p tid := by
  simp [Tr.Header.set_tid, hSetTid, res_bind_pure]

/-- `ext_flags` is an `Option<u16>` in Rust: the model's `Nat` is below 65536 -/
def ExtOK (ext : Option Nat) : Prop := ∀ e, ext = some e → e < 65536

theorem flags_eq (p : Bytes) (ext : Option Nat) (hext : ExtOK ext) :
    Tr.Header.flags p ext = hFlags p ext := by
  have he : ext.getD 0 < 65536 := by
    cases ext with
    | none => decide
    | some e => exact hext e rfl
  have hm : ext.getD 0 <<< 16 % 4294967296 = ext.getD 0 <<< 16 := by
    rw [Nat.shiftLeft_eq]; omega
  exact Res.bind_congr fun w _ => by simp [hm]

theorem set_flags_eq (p : Bytes) (flags : Nat) : Tr.Header.set_flags p flags = hSetFlags p flags := by
  unfold Tr.Header.set_flags hSetFlags
  rw [Nat.mod_eq_of_lt (Nat.lt_succ_of_le Nat.and_le_right : flags &&& 0xffff < 65536)]
  exact Res.bind_congr fun w _ => by simp [res_bind_pure]

theorem is_response_eq (p : Bytes) (ext : Option Nat) (hext : ExtOK ext) :
    Tr.Header.is_response p ext = hIsResponse p ext := by
  unfold Tr.Header.is_response hIsResponse
  rw [flags_eq p ext hext]
  exact Res.bind_congr fun f _ => by simp

theorem dnssec_eq (p : Bytes) (ext : Option Nat) (hext : ExtOK ext) :
    Tr.Header.dnssec p ext = hDnssec p ext := by
  unfold Tr.Header.dnssec hDnssec
  rw [flags_eq p ext hext]
  exact Res.bind_congr fun f _ => by simp

theorem set_response_eq (p : Bytes) (r : Bool) : Tr.Header.set_response p r = hSetResponse p r := by
  unfold Tr.Header.set_response hSetResponse
  refine Res.bind_congr fun w _ => ?_
  cases r <;> simp [res_bind_pure, DNS_FLAG_QR]

theorem rcode_eq (p : Bytes) : Tr.Header.rcode p = hRcode p :=
  Res.bind_congr fun b _ => by simp

theorem opcode_eq (p : Bytes) : Tr.Header.opcode p = hOpcode p :=
  Res.bind_congr fun b _ => by simp

/- the byte setters: Rust writes the byte twice through `*p &= ..; *p |= ..` -/

theorem write_panics (p : Bytes) (i : Nat) (x : UInt8) (h : ¬ i < p.length) : writeAt p i [x] = .panic := by
  simp [writeAt]; omega

theorem rmw_twice (p : Bytes) (i : Nat) (f g : Nat → Nat) (hf : ∀ b, b < 256 → f b < 256) :
    (idx p i >>= fun b1 => writeAt p i [UInt8.ofNat (f b1)] >>= fun p1 =>
      idx p1 i >>= fun b2 => writeAt p1 i [UInt8.ofNat (g b2)] >>= fun p2 => Res.ok p2)
    = (idx p i >>= fun b => writeAt p i [UInt8.ofNat (g (f b))]) := by
  refine Res.bind_congr fun b hb => ?_
  obtain ⟨hi, hlt⟩ := idx_lt hb
  have hw := writeAt_ok (p := p) (i := i) (v := [UInt8.ofNat (f b)]) hi
  have hrd : idx _ i = .ok (f b) := idx_of_byteAt <| by
    rw [byteAt_writeAt hw i, if_neg (Nat.lt_irrefl i), if_pos (show i < i + [UInt8.ofNat (f b)].length from Nat.lt_succ_self i), Nat.sub_self]
    show some (UInt8.ofNat (f b)).toNat = _
    rw [UInt8.toNat_ofNat', Nat.mod_eq_of_lt (hf b hlt)]
  rw [hw, Res.bind_ok, hrd, Res.bind_ok, res_bind_pure]
  exact writeAt_writeAt hw _ rfl

theorem set_rcode_eq (p : Bytes) (rcode : Nat) : Tr.Header.set_rcode p rcode = hSetRcode p rcode := by
  unfold Tr.Header.set_rcode hSetRcode
  have := rmw_twice p (DNS_FLAGS_OFFSET + 1) (fun b => b &&& 0xf0) (fun b => b ||| (rcode &&& 0xf))
    (fun b hb => Nat.lt_of_le_of_lt Nat.and_le_left hb)
  simpa using this

theorem set_opcode_eq (p : Bytes) (opcode : Nat) : Tr.Header.set_opcode p opcode = hSetOpcode p opcode := by
  unfold Tr.Header.set_opcode hSetOpcode
  have := rmw_twice p DNS_FLAGS_OFFSET (fun b => b &&& 0x87) (fun b => b ||| (((opcode <<< 3) % 256) &&& 0x78))
    (fun b hb => Nat.lt_of_le_of_lt Nat.and_le_left hb)
  simpa using this

end Dns.Tie
