/-
  The record-count bookkeeping of `ParsedPacket` (`rrcount_inc`, `rrcount_dec`, `insertion_offset`, with the
  `DNSSector::set_*count` writers they call), as translated from the current source (`Generated/TrCounts.lean`),
  computes what the model functions of Mutate.lean compute — the functions every insert/delete theorem of C08–C11
  goes through.
-/
import DnsModel.Mutate
import DnsModel.Generated.TrCounts
import DnsModel.Tie.Basic
namespace Dns.Tie
open Dns

/-- `rrcount_inc`: the model returns the error as a value together with the untouched object -/
def incResult (r : PP × Option Err) : Res Bytes :=
  match r.2 with | none => .ok r.1.packet | some e => .err e

/- Each function dispatches on the section and then does the same thing to the 16-bit count at the section's
offset `k`: that is compared once, for a variable `k`; the dispatch is evaluated section by section. -/

/-- the source computes `n - 1` with a checked subtraction after having excluded `n = 0` -/
theorem dec_core (p : Bytes) (k n : Nat) :
    (if n ≤ 0 then Res.panic else sub n 1 >>= fun d => writeAt p k (put16 d) >>= fun q => Res.ok (d, q))
      = if n ≤ 0 then Res.panic else writeAt p k (put16 (n - 1)) >>= fun q => Res.ok (n - 1, q) := by
  simp only [sub, bind_ite, Res.bind_ok, Res.bind_panic]
  grind

/-- the source's overflow check on `n + 1` cannot fire below the limit it has just tested -/
theorem inc_core (p : Bytes) (k n : Nat) :
    (if n ≥ 65535 then Res.err .invalidPacket else Tr.checked 65536 (n + 1) >>= fun a => writeAt p k (put16 a))
      = if n ≥ 65535 then Res.err .invalidPacket else writeAt p k (put16 (n + 1)) := by
  simp only [Tr.checked, bind_ite, Res.bind_ok, Res.bind_panic]
  grind

theorem rrcount_dec_eq (pp : PP) (s : Section) :
    Tr.Counts.rrcount_dec pp.packet s = (rrcountDec pp s >>= fun r => Res.ok (r.2, r.1.packet)) := by
  cases s
  all_goals
    simp only [Tr.Counts.rrcount_dec, rrcountDec, sectionCount, sectionCountOffset, Tr.Counts.qdcount, Tr.Counts.ancount,
      Tr.Counts.nscount, Tr.Counts.arcount, Tr.Counts.set_qdcount, Tr.Counts.set_ancount, Tr.Counts.set_nscount,
      Tr.Counts.set_arcount, qdcount, ancount, nscount, arcount, res_bind_pure, Res.bind_assoc, beq_iff_eq, reduceCtorEq,
      if_true, if_false, Res.bind_panic, Res.bind_ok, Res.pure_eq, bind_ite, decide_eq_true_eq]
  all_goals exact Res.bind_congr fun n _ => dec_core pp.packet _ n

theorem rrcount_inc_eq (pp : PP) (s : Section) :
    (Tr.Counts.rrcount_inc pp.packet s >>= fun r => Res.ok r.2) = (rrcountInc pp s >>= incResult) := by
  cases s
  all_goals
    simp only [Tr.Counts.rrcount_inc, rrcountInc, sectionCount, sectionCountOffset, Tr.Counts.qdcount, Tr.Counts.ancount,
      Tr.Counts.nscount, Tr.Counts.arcount, Tr.Counts.set_qdcount, Tr.Counts.set_ancount, Tr.Counts.set_nscount,
      Tr.Counts.set_arcount, qdcount, ancount, nscount, arcount, incResult, res_bind_pure, Res.bind_assoc, beq_iff_eq,
      reduceCtorEq, if_true, if_false, Res.bind_panic, Res.bind_ok, Res.bind_err, Res.pure_eq, bind_ite,
      decide_eq_true_eq, Bool.and_eq_true, true_and, false_and]
  · exact Res.bind_congr fun n _ => guard_congr Iff.rfl fun _ => inc_core pp.packet 4 n
  all_goals exact Res.bind_congr fun n _ => inc_core pp.packet _ n

theorem insertion_offset_eq (pp : PP) (s : Section) :
    Tr.Counts.insertion_offset pp.packet pp.offsetAnswers pp.offsetNameservers pp.offsetAdditional s
      = insertionOffset pp s := by
  cases s
  all_goals
    simp only [Tr.Counts.insertion_offset, insertionOffset, beq_iff_eq, reduceCtorEq, if_true, if_false, Res.pure_eq]
  all_goals grind [cases Option]

end Dns.Tie
