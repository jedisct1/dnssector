/-
  Spec.RecordText — the record-text grammar of `RR::from_string`, stated on the text, and the
  RFC 1035 wire form each text stands for.
  text  ::=  B* owner B+ ttl B+ "IN" B+ TYPE B+ rdata B*          (B = space or tab; keywords any case)
  owner ::=  "."  |  label ("." label)* ["."]                       (see `HostText`)
  rdata ::=  per type, see `RDataText`
-/
import DnsModel.Spec.TextTokens
import DnsModel.Lemmas.Emit
namespace Dns
open Res

def Blanks (b : Bytes) : Prop := ∀ c ∈ b, isHws c = true
def Blanks1 (b : Bytes) : Prop := b ≠ [] ∧ ∀ c ∈ b, isHws c = true
def Spaces (b : Bytes) : Prop := ∀ c ∈ b, isWs c = true
def Spaces1 (b : Bytes) : Prop := b ≠ [] ∧ ∀ c ∈ b, isWs c = true

/-- a host name of the grammar and the labels it stands for -/
def HostName (n : Bytes) (ls : List (List UInt8)) : Prop :=
  (n = [46] ∧ ls = []) ∨
  ∃ done cur, n = dotted done ++ cur ∧ (∀ l ∈ done, HostLabel l) ∧ (cur = [] ∨ HostLabel cur) ∧ n ≠ [] ∧
    ¬ (cur = [] ∧ ∀ l ∈ done, l.all isDigit = true) ∧ ls = C14.labelsOf done cur ∧ labSum ls + 1 ≤ 253

/-- the type keywords (any case) -/
def TypeWord (w : Bytes) (t : Nat) : Prop :=
  (lowerBytes w = [97] ∧ t = 1) ∨ (lowerBytes w = [97, 97, 97, 97] ∧ t = 28) ∨ (lowerBytes w = [110, 115] ∧ t = 2) ∨
  (lowerBytes w = [99, 110, 97, 109, 101] ∧ t = 5) ∨ (lowerBytes w = [112, 116, 114] ∧ t = 12) ∨
  (lowerBytes w = [116, 120, 116] ∧ t = 16) ∨ (lowerBytes w = [109, 120] ∧ t = 15) ∨ (lowerBytes w = [115, 111, 97] ∧ t = 6) ∨
  (lowerBytes w = [100, 115] ∧ t = 43)

/-- character-string chunks of a TXT record: the bytes cut into pieces of 255 (the last 1..255) -/
def txtWire : Nat → Bytes → Bytes
  | 0, _ => []
  | _, [] => []
  | fuel+1, b => UInt8.ofNat (min 255 b.length) :: (b.take 255 ++ txtWire fuel (b.drop 255))

/-- the data part: text and wire form, per type -/
inductive RDataText : Nat → Bytes → Bytes → Prop
  | a (d0 d1 d2 d3 : Bytes) : Numeral d0 → Numeral d1 → Numeral d2 → Numeral d3 →
      decVal d0 ≤ 255 → decVal d1 ≤ 255 → decVal d2 ≤ 255 → decVal d3 ≤ 255 →
      RDataText 1 (d0 ++ 46 :: (d1 ++ 46 :: (d2 ++ 46 :: d3)))
        [UInt8.ofNat (decVal d0), UInt8.ofNat (decVal d1), UInt8.ofNat (decVal d2), UInt8.ofNat (decVal d3)]
  | aaaa (s : Bytes) (gs : List Nat) : V6Text s gs → RDataText 28 s ((gs.map put16).flatten)
  | name (t : Nat) (n : Bytes) (ls : List (List UInt8)) : (t = 2 ∨ t = 5 ∨ t = 12) → HostName n ls →
      RDataText t n (encLabels ls ++ [0])
  | txt (body vs : Bytes) : QuotedText body vs → vs ≠ [] → vs.length ≤ 3825 →
      RDataText 16 (34 :: (body ++ [34])) (txtWire (vs.length + 1) vs)
  | mx (p b n : Bytes) (ls : List (List UInt8)) : Numeral p → decVal p ≤ 65535 → Blanks1 b → HostName n ls →
      RDataText 15 (p ++ (b ++ n)) (put16 (decVal p) ++ (encLabels ls ++ [0]))
  | soa (ns b1 ct b2 w0 n1 w1 n2 w2 n3 w3 n4 w4 n5 w5 : Bytes) (l1 l2 : List (List UInt8)) :
      HostName ns l1 → Blanks1 b1 → HostName ct l2 → Blanks b2 → Spaces w0 →
      Numeral n1 → Spaces1 w1 → Numeral n2 → Spaces1 w2 → Numeral n3 → Spaces1 w3 → Numeral n4 → Spaces1 w4 → Numeral n5 →
      Spaces w5 → decVal n1 ≤ 4294967295 → decVal n2 ≤ 4294967295 → decVal n3 ≤ 4294967295 → decVal n4 ≤ 4294967295 →
      decVal n5 ≤ 4294967295 →
      RDataText 6 (ns ++ (b1 ++ (ct ++ (b2 ++ 40 :: (w0 ++ (n1 ++ (w1 ++ (n2 ++ (w2 ++ (n3 ++ (w3 ++ (n4 ++ (w4 ++ (n5 ++ (w5 ++ [41])))))))))))))))
        ((encLabels l1 ++ [0]) ++ (encLabels l2 ++ [0]) ++
          (put32 (decVal n1) ++ put32 (decVal n2) ++ put32 (decVal n3) ++ put32 (decVal n4) ++ put32 (decVal n5)))
  | ds (tag b1 alg b2 dt b3 hex dg : Bytes) : Numeral tag → decVal tag ≤ 65535 → Blanks1 b1 → Numeral alg → decVal alg ≤ 255 →
      Blanks1 b2 → Numeral dt → decVal dt ≤ 255 → Blanks1 b3 → HexText hex dg → hex ≠ [] →
      RDataText 43 (tag ++ (b1 ++ (alg ++ (b2 ++ (dt ++ (b3 ++ hex))))))
        (put16 (decVal tag) ++ [UInt8.ofNat (decVal alg), UInt8.ofNat (decVal dt)] ++ dg)

/-- **the grammar**: a record text and the wire record it stands for -/
def RecordText (t rr : Bytes) : Prop :=
  ∃ (b0 owner b1 ttl b2 : Bytes) (cI cN : UInt8) (b3 tw b4 rdt b5 rd : Bytes) (ols : List (List UInt8)) (ty : Nat),
    t = b0 ++ (owner ++ (b1 ++ (ttl ++ (b2 ++ (cI :: cN :: (b3 ++ (tw ++ (b4 ++ (rdt ++ b5))))))))) ∧
    Blanks b0 ∧ HostName owner ols ∧ Blanks1 b1 ∧ Numeral ttl ∧ decVal ttl ≤ 4294967295 ∧ Blanks1 b2 ∧
    (cI = 73 ∨ cI = 105) ∧ (cN = 78 ∨ cN = 110) ∧ Blanks1 b3 ∧ TypeWord tw ty ∧ Blanks1 b4 ∧ RDataText ty rdt rd ∧ Blanks b5 ∧
    rd.length ≤ 65535 ∧
    rr = (encLabels ols ++ [0]) ++ (put16 ty ++ put16 1 ++ put32 (decVal ttl)) ++ put16 rd.length ++ rd

end Dns
