/-
  Spec.TextTokens — the words of the text grammars: host-name labels and dotted names, numerals, hex strings,
  quoted strings, IPv6 groups; the characters that end a token.
-/
import DnsModel.Synth
namespace Dns

/-- a label of the text form: non-empty, at most 62 bytes, no dot, no byte above 128 -/
def TextLabel (l : Bytes) : Prop := l ≠ [] ∧ l.length ≤ 62 ∧ ∀ c ∈ l, c ≠ 46 ∧ c.toNat ≤ 128

/-- a pending label: like a label but possibly empty -/
def TextRun (l : Bytes) : Prop := l.length ≤ 62 ∧ ∀ c ∈ l, c ≠ 46 ∧ c.toNat ≤ 128

/-- labels each followed by a dot -/
def dotted (done : List Bytes) : Bytes := done.flatMap (· ++ [46])

/-- the rest does not start with a character satisfying `f` -/
def StopF (f : UInt8 → Bool) (rest : Bytes) : Prop := ∀ c r, rest = c :: r → f c = false

/-- characters the host-name grammar lets through -/
def hostChar (c : UInt8) : Bool := c == 46 || c == 45 || c == 95 || isAlpha c || isDigit c

/-- value of a digit string -/
def decVal (ds : Bytes) : Nat := ds.foldl (fun a d => a * 10 + (d.toNat - 48)) 0

/-- a decimal numeral: non-empty digit string -/
def Numeral (ds : Bytes) : Prop := ds ≠ [] ∧ ∀ c ∈ ds, isDigit c = true

def hostFirst (c : UInt8) : Bool := isAlpha c || isDigit c || c == 95
def hostInner (c : UInt8) : Bool := isAlpha c || isDigit c || c == 45

/-- a label of the host-name grammar: 1..62 letters, digits, hyphens (not first), underscore (first only) -/
def HostLabel (l : Bytes) : Prop :=
  ∃ c t, l = c :: t ∧ hostFirst c = true ∧ (∀ x ∈ t, hostInner x = true) ∧ l.length ≤ 62

/-- two hex digits per byte -/
inductive HexText : Bytes → Bytes → Prop
  | nil : HexText [] []
  | cons {a b : UInt8} {s v : Bytes} : isHexDigit a = true → isHexDigit b = true → HexText s v →
      HexText (a :: b :: s) (UInt8.ofNat (hexDigitVal a * 16 + hexDigitVal b) :: v)

/-- how one byte of a quoted string may be written: itself (printable, neither quote nor backslash),
or backslash and three decimal digits -/
inductive EscEnc : UInt8 → Bytes → Prop
  | plain (c : UInt8) : c.toNat > 31 → c.toNat < 128 → c ≠ 92 → c ≠ 34 → EscEnc c [c]
  | esc (a b c : UInt8) : isDigit a = true → isDigit b = true → isDigit c = true →
      (a.toNat - 48) * 100 + (b.toNat - 48) * 10 + (c.toNat - 48) ≤ 255 →
      EscEnc (UInt8.ofNat ((a.toNat - 48) * 100 + (b.toNat - 48) * 10 + (c.toNat - 48))) [92, a, b, c]

/-- the text of a quoted body and the bytes it stands for -/
inductive QuotedText : Bytes → Bytes → Prop
  | nil : QuotedText [] []
  | cons {v : UInt8} {e t vs : Bytes} : EscEnc v e → QuotedText t vs → QuotedText (e ++ t) (v :: vs)

/-- one group: 1..4 hex digits -/
def HexGroup (ds : Bytes) : Prop := ds ≠ [] ∧ ds.length ≤ 4 ∧ ∀ c ∈ ds, isHexDigit c = true

def hexGroupVal (ds : Bytes) : Nat := ds.foldl (fun a d => a * 16 + hexDigitVal d) 0

/-- groups each preceded by a colon -/
def colonGroups (gs : List Bytes) : Bytes := gs.flatMap (fun g => 58 :: g)

/-- text of a run of groups starting without colon: empty, or `g0:g1:...` -/
def groupsText : List Bytes → Bytes
  | [] => []
  | g :: gs => g ++ colonGroups gs

/-- IPv6 text: eight groups, or a head and a tail of groups around `::` (at most seven in all) -/
inductive V6Text : Bytes → List Nat → Prop
  | full (gs : List Bytes) : gs.length = 8 → (∀ g ∈ gs, HexGroup g) → V6Text (groupsText gs) (gs.map hexGroupVal)
  | compressed (hs ts : List Bytes) : hs.length + ts.length ≤ 7 → (∀ g ∈ hs, HexGroup g) → (∀ g ∈ ts, HexGroup g) →
      V6Text (groupsText hs ++ 58 :: 58 :: groupsText ts)
        (hs.map hexGroupVal ++ List.replicate (8 - hs.length - ts.length) 0 ++ ts.map hexGroupVal)

namespace C14

/-- the labels a text `dotted done ++ cur` denotes -/
def labelsOf (done : List Bytes) (cur : Bytes) : List Bytes := if cur = [] then done else done ++ [cur]

end C14

end Dns
