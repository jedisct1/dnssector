/-
  C03 — Every accepted packet reads back completely and faithfully via the iterators.
  For every accepted packet (`parse p = .ok v`, object `PP.ofView p v`): the walks yield exactly the question, the
  records the policy relation describes (in wire order; with OPT included, and with OPT skipped wherever it sits)
  and the EDNS options; on every record so yielded each accessor returns the value read off the bytes at the
  record's positions (owner name in wire and in lowercase dotted form; type, class, TTL, data length, data,
  address, section) and none panics.  Accessors are pure functions of the bytes in the model, so "alters no byte"
  is definitional.
-/
import DnsModel.Lemmas.Layout
import DnsModel.Tie.Reader
import DnsModel.Theorems.C02
namespace Dns.C03
open Dns Res

/-- C03, record sections: the walks visit exactly the records present: answers and authority in full; additional in
full with OPT included, and minus OPT with OPT skipped. -/
theorem walks_faithful {p : Bytes} {v : View} (h : parse p = .ok v) :
    ∃ L : Layout p,
      (∃ cs, collectWalk (PP.ofView p v) nextSkippingOpt (L.answers.length + 1) (Cursor.new .answer) = .ok cs ∧
        cs.map posOf = (nonOpt p L.answers).map some) ∧
      (∃ cs, collectWalk (PP.ofView p v) nextSkippingOpt (L.authority.length + 1) (Cursor.new .nameServers) = .ok cs ∧
        cs.map posOf = (nonOpt p L.authority).map some) ∧
      (∃ cs, collectWalk (PP.ofView p v) nextSkippingOpt (L.additional.length + 1) (Cursor.new .additional) = .ok cs ∧
        cs.map posOf = (nonOpt p L.additional).map some) ∧
      (∃ cs, collectWalk (PP.ofView p v) nextIncludingOpt (L.additional.length + 1) (Cursor.new .additional) = .ok cs ∧
        cs.map posOf = L.additional.map some) := by
  obtain ⟨L⟩ := exists_layout h
  exact ⟨L, walks_of h L⟩

/-- answers and authority never contain OPT, so their walks are complete -/
theorem no_opt_outside_additional {p : Bytes} {sec : Section} {l : List RecPos} {off e : Nat} {ob oe : Bool}
    (h : RRsL p sec l off ob e oe) (hs : sec ≠ .additional) : nonOpt p l = l :=
  nonOpt_eq_self (h.no_opt_of_sec hs)

/-- C03, question walk: the question, then the end -/
theorem question_walk {p : Bytes} {v : View} (h : parse p = .ok v) :
    ∃ qe, NameEnds p 12 qe ∧
      collectWalk (PP.ofView p v) nextQuestion 2 (Cursor.new .question) =
        .ok [⟨.question, some 12, qe + 4, qe, 0⟩] := by
  obtain ⟨hl, hqd, qe, hne, hq4, -⟩ := C02.accepted_wf p v h
  obtain ⟨-, v1, -⟩ := accepted_layout h
  refine ⟨qe, hne, ?_⟩
  obtain ⟨ls, hv⟩ := hne
  have hsk : skipName p 12 = .ok qe := skipName_valid hv.2.1 (by omega)
  have hq : qdcount p = .ok 1 := by rw [qdcount, be16_ok (by omega), hqd]
  refine collectWalk_cons ?_ (collectWalk_nil 0 ?_)
  · simp only [nextQuestion, Cursor.new, PP.ofView, hq, v1, unwrap, assert, hsk, DNS_RR_QUESTION_HEADER_SIZE, bind_ok,
      pure_eq, Nat.reduceBEq, Bool.false_eq_true, if_false, if_true, Nat.sub_self]
  · rfl

/-- C03, address accessor: the 4 / 16 data bytes of an A / AAAA record of the policy; `PropertyNotFound` otherwise -/
theorem ip_accessor {p : Bytes} {sec : Section} {r : RecPos} {ob oa : Bool} (hr : RRAtPos p sec r ob oa)
    (c : Cursor) (hc : posOf c = some r) :
    c.rrIp p = (if get16 p r.ne = 1 ∨ get16 p r.ne = 28
      then .ok ((p.drop (r.ne + 10)).take (get16 p (r.ne + 8))) else .err .propertyNotFound) := by
  obtain ⟨off, ne, next⟩ := r
  obtain ⟨ho, rfl, -⟩ := posOf_eq_some.1 hc
  dsimp only [RRAtPos] at hr
  obtain ⟨-, h10, rfl, hfit, hbody⟩ := hr
  have h1 := sliceFrom_ok (p := p) (a := c.nameEnd) (by omega)
  -- an address of `k` bytes, where `k` is the data length the policy fixes for the type
  have addr : ∀ k, get16 p (c.nameEnd + 8) = k →
      (do let rd ← sliceFrom p c.nameEnd
          assert (rd.length ≥ 10 + k)
          slice p (c.nameEnd + 10) (c.nameEnd + 10 + k)) = .ok ((p.drop (c.nameEnd + 10)).take (get16 p (c.nameEnd + 8))) := by
    rintro k rfl
    have : decide ((p.drop c.nameEnd).length ≥ 10 + get16 p (c.nameEnd + 8)) = true := by
      rw [List.length_drop]; exact decide_eq_true (by omega)
    simp only [h1, bind_ok, assert, this, if_true, slice_ok ⟨Nat.le_add_right _ _, hfit⟩, Nat.add_sub_cancel_left]
  simp only [Cursor.rrIp, rrType_at ho h10, bind_ok, DNS_RR_HEADER_SIZE, TYPE_A, TYPE_AAAA, beq_iff_eq]
  by_cases t1 : get16 p c.nameEnd = 1
  · rw [if_neg (by omega), t1] at hbody
    rw [if_pos t1, if_pos (Or.inl t1), addr 4 hbody.1]
  by_cases t28 : get16 p c.nameEnd = 28
  · rw [if_neg (by omega), t28] at hbody
    rw [if_neg t1, if_pos t28, if_pos (Or.inr t28), addr 16 hbody.1]
  · rw [if_neg t1, if_neg t28, if_neg (by omega)]

/-- C03, raw-data accessor: an address for A / AAAA, the `rdlen` bytes after the fixed header otherwise -/
theorem data_accessor {p : Bytes} {sec : Section} {r : RecPos} {ob oa : Bool} (hr : RRAtPos p sec r ob oa)
    (c : Cursor) (hc : posOf c = some r) :
    c.rrRd p = (if get16 p r.ne = 1 ∨ get16 p r.ne = 28
      then .ok (.ip ((p.drop (r.ne + 10)).take (get16 p (r.ne + 8))))
      else .ok (.data ((p.drop (r.ne + 10)).take (get16 p (r.ne + 8))))) := by
  have hip := ip_accessor hr c hc
  obtain ⟨ls, -, -, -, -, -, -, hlen⟩ := accessors hr c hc
  obtain ⟨off, ne, next⟩ := r
  obtain ⟨-, rfl, -⟩ := posOf_eq_some.1 hc
  dsimp only [RRAtPos] at hr hip hlen ⊢
  obtain ⟨-, -, rfl, hfit, -⟩ := hr
  unfold Cursor.rrRd
  by_cases hA : get16 p c.nameEnd = 1 ∨ get16 p c.nameEnd = 28
  · rw [hip, if_pos hA, if_pos hA]
  · rw [hip, if_neg hA, if_neg hA]
    simp only [hlen, bind_ok, DNS_RR_HEADER_SIZE, slice_ok ⟨Nat.le_add_right _ _, hfit⟩, Nat.add_sub_cancel_left, pure_eq]

/-- C03, EDNS options: the option walk yields exactly the options tiling the OPT record's data, in order (start and
end of each), and nothing when the packet has no OPT. -/
theorem edns_walk {p : Bytes} {v : View} (h : parse p = .ok v) :
    ∃ L : Layout p,
      match firstOpt p L.additional with
      | none => collectWalk (PP.ofView p v) nextEdns 1 (Cursor.new .edns) = .ok []
      | some r => ∃ n, OptionsTile p (r.ne + 10) (r.ne + 10 + get16 p (r.ne + 8)) n ∧
          ∃ cs, collectWalk (PP.ofView p v) nextEdns (n + 1) (Cursor.new .edns) = .ok cs ∧
            cs.map (fun c => (c.offset, c.offsetNext)) = (tilePairs p (r.ne + 10) n).map (fun x => (some x.1, x.2)) := by
  obtain ⟨L, _, _, _, _, _, _, hinfo⟩ := layout_full h
  refine ⟨L, ?_⟩
  cases ho : firstOpt p L.additional with
  | none =>
    rw [ho] at hinfo
    exact walk_edns_none (pp := PP.ofView p v) (congrArg EdnsInfo.count hinfo)
  | some r =>
    rw [ho] at hinfo
    obtain ⟨n, htile, hi⟩ := hinfo
    obtain ⟨ob, oa, hr⟩ := RRsL.mem_pos L.hr r (List.mem_of_find?_eq_some ho)
    exact ⟨n, htile, walk_edns (pp := PP.ofView p v) htile (hr.2.2.1 ▸ hr.2.2.2.1)
      (congrArg EdnsInfo.count hi) (congrArg EdnsInfo.start hi)⟩

/-! non-vacuity: a response with a compressed answer and an OPT record carrying one option -/
example : ∃ v, parse C02.okPacket = .ok v := C02.okPacket_accepted

/-! The name readers the accessors use (`Compress::raw_name_len`, `raw_name_len_after_decompression`,
`copy_uncompressed_name`, `SuffixDict::raw_names_eq_ignore_case`) are translated from /repo/src/compress.rs by
rs2lean.py on every run (`Generated/TrReader.lean`) and proved equal to the model functions (`Tie/Reader.lean`). -/
theorem source_reader_tie (p pre n1 n2 : Bytes) (off : Nat) :
    Tr.Reader.raw_name_len p = rawNameLen p ∧
    Tr.Reader.raw_name_len_after_decompression p off = rawNameLenAfterDecompression p off ∧
    Tr.Reader.copy_uncompressed_name pre p off
      = (copyUncompressedName p off >>= fun r => Res.ok ((r.1.length, r.2), pre ++ r.1)) ∧
    Tr.Reader.raw_names_eq_ignore_case n1 n2 = .ok (rawNamesEqIgnoreCase n1 n2) :=
  Tie.reader_tie p pre n1 n2 off

/-- `Compress::raw_name_to_str`, which `name()` lower-cases: translated source = model -/
theorem source_name_text (p : Bytes) (off : Nat) : Tr.Reader.raw_name_to_str p off = rawNameToStr p off :=
  Tie.raw_name_to_str_eq p off

end Dns.C03
