/-
  C08 (sequences) — the invariant over any sequence of operations.

  A hook script works on one packet object with at most one open record-section iterator.  `Op`, `St`, `applyOp`
  restrict the script language of Script.lean to the operations `Allowed` speaks of, stated over the same model
  functions (`nextIncludingOpt`, `deleteRR`, `setRrTtl`, …); no theorem relates `applyOp` to `Dns.step` of Script.lean.
  `Inv` is `Consistent` plus "the iterator's cursor is void, or stands on a record of its section"; `Allowed` spells out
  the documented preconditions and the by-design exclusions (KF1–KF5).  `step_spec`: an allowed step from `Inv` returns
  and `Inv` holds again (one lemma per operation, `*_steps`); `step_inv`, `step_total` are its two halves, `run_total` /
  `run_inv` the same over scripts.
-/
import DnsModel.Theorems.C08
import DnsModel.Tie.Counts
import DnsModel.Tie.Insert
namespace Dns.C08
open Dns Res

/-- the operations a hook script may apply to one packet object with at most one open record-section iterator -/
inductive Op
  | openIter (sec : Section)
  | next
  | close
  | delete
  | setTtl (ttl : Nat)
  | setIp (ip : Bytes)
  | setName (owner : List (List UInt8))
  | insert (sec : Section) (rr : Bytes)
  | setTid (n : Nat) | setFlags (n : Nat) | setResponse (b : Bool) | setRcode (n : Nat) | setOpcode (n : Nat)
  | recompute

/-- the object and its (at most one) open iterator -/
structure St where
  pp : PP
  cur : Option Cursor

/-- one step; the `Option Err` is what the caller is told -/
def applyOp (s : St) : Op → Res (St × Option Err)
  | .openIter sec => pure ({ s with cur := some (Cursor.new sec) }, none)
  | .next =>
    match s.cur with
    | none => pure (s, none)
    | some c => do
      match ← nextIncludingOpt s.pp c with
      | none => pure ({ s with cur := none }, none)
      | some c' => pure ({ s with cur := some c' }, none)
  | .close => pure ({ s with cur := none }, none)
  | .delete =>
    match s.cur with
    | none => pure (s, none)
    | some c => do let o ← deleteRR s.pp c; pure (⟨o.pp, some o.cur⟩, o.result)
  | .setTtl ttl =>
    match s.cur with
    | none => pure (s, none)
    | some c => do let pp' ← setRrTtl s.pp c ttl; pure (⟨pp', some c⟩, none)
  | .setIp ip =>
    match s.cur with
    | none => pure (s, none)
    | some c => do let (pp', e) ← setRrIp s.pp c ip; pure (⟨pp', some c⟩, e)
  | .setName owner =>
    match s.cur with
    | none => pure (s, none)
    | some c => do let o ← setRawName s.pp c (encLabels owner ++ [0]); pure (⟨o.pp, some o.cur⟩, o.result)
  | .insert sec rr =>
    match s.cur with
    | some _ => pure (s, none)          -- the borrow checker does not allow it while the iterator lives
    | none => do let (pp', e) ← insertRR s.pp sec rr; pure (⟨pp', none⟩, e)
  | .setTid n => match s.cur with
    | some _ => pure (s, none)
    | none => do let p ← hSetTid s.pp.packet (n % 65536); pure (⟨{ s.pp with packet := p }, none⟩, none)
  | .setFlags n => match s.cur with
    | some _ => pure (s, none)
    | none => do let p ← hSetFlags s.pp.packet n; pure (⟨{ s.pp with packet := p }, none⟩, none)
  | .setResponse b => match s.cur with
    | some _ => pure (s, none)
    | none => do let p ← hSetResponse s.pp.packet b; pure (⟨{ s.pp with packet := p }, none⟩, none)
  | .setRcode n => match s.cur with
    | some _ => pure (s, none)
    | none => do let p ← hSetRcode s.pp.packet n; pure (⟨{ s.pp with packet := p }, none⟩, none)
  | .setOpcode n => match s.cur with
    | some _ => pure (s, none)
    | none => do let p ← hSetOpcode s.pp.packet n; pure (⟨{ s.pp with packet := p }, none⟩, none)
  | .recompute => match s.cur with
    | some _ => pure (s, none)
    | none => do let (pp', e) ← s.pp.recompute; pure (⟨pp', none⟩, e)

/-- the cursor of the open iterator is void or stands on a record of its section -/
def CurOK {pp : PP} (P : PlainObj pp) : Option Cursor → Prop
  | none => True
  | some c => c.sec.isRec = true ∧ (c.offset = none ∨ ∃ j, CurOn P c.sec j c)

/-- the invariant of a script state: the object is consistent and the open iterator's cursor, if any, is void or stands
on a record of its section -/
def Inv (s : St) : Prop :=
  ∃ P : PlainObj s.pp, (s.pp.cached = none ∨ s.pp.cached = some (questionOf P)) ∧ EdnsOK P ∧ CurOK P s.cur

theorem Inv.consistent {s : St} (h : Inv s) : Consistent s.pp := by
  obtain ⟨P, hc, he, _⟩ := h
  exact ⟨P, hc, he⟩

/-- the record under the cursor is not the OPT pseudo-record (KF5) -/
def NotOptTarget (s : St) : Prop := ∀ c, s.cur = some c → ∀ t, c.rrType s.pp.packet = .ok t → t ≠ 41

/-- documented preconditions and by-design exclusions.  `set_rr_ttl` and `set_rr_ip` index the packet at
`name_end` without asking whether the cursor is void (the model's `rrType` panics there), so a live
cursor is required of them; `set_raw_name` and `delete` report `VoidRecord` themselves -/
def Allowed (s : St) : Op → Prop
  | .openIter sec => sec.isRec = true
  | .setTtl _ => (∃ c, s.cur = some c ∧ c.offset.isSome) ∧ NotOptTarget s
  | .setIp _ => ∃ c, s.cur = some c ∧ c.offset.isSome
  | .setName owner => GoodLabels owner ∧ NotOptTarget s
  | .insert sec rr => sec.isRec = true ∧ (∀ b, PieceOK sec rr b b) ∧ (sec ≠ .additional → get16 s.pp.packet 2 / 32768 % 2 = 1)
  | .setFlags n => ∀ p', hSetFlags s.pp.packet n = .ok p' → get16 p' 2 / 32768 % 2 = 0 → get16 s.pp.packet 6 = 0 ∧ get16 s.pp.packet 8 = 0
  | .setResponse b => ∀ p', hSetResponse s.pp.packet b = .ok p' → get16 p' 2 / 32768 % 2 = 0 → get16 s.pp.packet 6 = 0 ∧ get16 s.pp.packet 8 = 0
  | .setRcode n => ∀ p', hSetRcode s.pp.packet n = .ok p' → get16 p' 2 / 32768 % 2 = 0 → get16 s.pp.packet 6 = 0 ∧ get16 s.pp.packet 8 = 0
  | .setOpcode n => ∀ p', hSetOpcode s.pp.packet n = .ok p' → get16 p' 2 / 32768 % 2 = 0 → get16 s.pp.packet 6 = 0 ∧ get16 s.pp.packet 8 = 0
  | _ => True

theorem curOn_after_replace {pp pp' : PP} (P : PlainObj pp) (P' : PlainObj pp') (sec : Section) (hs : sec.isRec = true)
    (j : Nat) (hj : j < (P.lst sec).length) (rc' : Bytes) (owner : List (List UInt8)) (rest : Bytes)
    (f1 : P'.lst sec = (P.lst sec).take j ++ rc' :: (P.lst sec).drop (j + 1)) (f2 : ∀ s, s ≠ sec → P'.lst s = P.lst s)
    (f3 : P'.qls = P.qls) (hrc' : rc' = (encLabels owner ++ [0]) ++ rest) (hgo : GoodLabels owner) (c' : Cursor) (hsec : c'.sec = sec)
    (hoff : c'.offset = some (P.start sec + ((P.lst sec).take j).flatten.length))
    (hnext : c'.offsetNext = P.start sec + ((P.lst sec).take j).flatten.length + rc'.length)
    (hne : c'.nameEnd = P.start sec + ((P.lst sec).take j).flatten.length + labSum owner + 1)
    (hleft : c'.rrsLeft = (P.lst sec).length - j - 1) : CurOn P' sec j c' := by
  have hst : P'.start sec = P.start sec := P.start_congr P' sec f3 f2
  have hl : ((P.lst sec).take j).length = j := by rw [List.length_take]; omega
  have hlen : (P'.lst sec).length = (P.lst sec).length := by
    rw [f1, List.length_append, List.length_cons, hl, List.length_drop]; omega
  have hj' : j < (P'.lst sec).length := hlen ▸ hj
  have htake : (P'.lst sec).take j = (P.lst sec).take j := by rw [f1, List.take_left' hl]
  have hget : (P'.lst sec)[j] = rc' := by
    rw [List.getElem_of_eq f1 hj', List.getElem_append_right (Nat.le_of_eq hl)]
    simp only [hl, Nat.sub_self, List.getElem_cons_zero]
  obtain ⟨ne, ob, oa, hr⟩ := P'.rec_at sec hs f1
  have hne' := P'.ne_of_shape sec hs f1 owner rest hrc' hgo hr
  rw [hst] at hr hne'
  refine ⟨hj', ob, oa, hsec, by rw [hst, htake]; exact hoff, by rw [hst, htake, hget]; exact hnext, by rw [hlen]; exact hleft, ?_⟩
  rw [hst, htake, hget, hne, ← hne']
  exact hr

theorem next_steps {s : St} (h : Inv s) : ∃ s' e, applyOp s .next = .ok (s', e) ∧ Inv s' := by
  obtain ⟨P, hc, he, hcur⟩ := h
  cases hs : s.cur with
  | none => exact ⟨s, none, by simp only [applyOp, hs, pure_eq], P, hc, he, hs ▸ trivial⟩
  | some c =>
    rw [hs] at hcur
    obtain ⟨hrec, hpos⟩ := hcur
    obtain ⟨j, hat⟩ : ∃ j, CurAt P c.sec j c := by
      rcases hpos with hv | ⟨j, hon⟩
      · exact ⟨0, rfl, Or.inl ⟨hv, rfl⟩⟩
      · exact ⟨j + 1, hon.curAt_succ⟩
    by_cases hj : j < (P.lst c.sec).length
    · obtain ⟨c', hnx, hon⟩ := next_some P c.sec hrec j c hat hj
      have ⟨_, _, _, hsec, _⟩ := hon
      exact ⟨⟨s.pp, some c'⟩, none, by simp only [applyOp, hs, hnx, bind_ok, pure_eq], P, hc, he, hsec ▸ hrec, Or.inr ⟨j, hsec ▸ hon⟩⟩
    · exact ⟨⟨s.pp, none⟩, none, by simp only [applyOp, hs, next_none P c.sec hrec j c hat hj, bind_ok, pure_eq], P, hc, he, trivial⟩

theorem delete_steps {s : St} (h : Inv s) : ∃ s' e, applyOp s .delete = .ok (s', e) ∧ Inv s' := by
  obtain ⟨P, hc, he, hcur⟩ := h
  cases hs : s.cur with
  | none => exact ⟨s, none, by simp only [applyOp, hs, pure_eq], P, hc, he, hs ▸ trivial⟩
  | some c =>
    rw [hs] at hcur
    obtain ⟨hrec, hv | ⟨j, hj, ob, oa, hsec, hoff, hnext, hleft, hr⟩⟩ := hcur
    · exact ⟨⟨s.pp, some c⟩, some .voidRecord, by simp only [applyOp, hs, delete_void s.pp c hv, bind_ok, pure_eq],
        P, hc, he, hrec, Or.inl hv⟩
    · obtain ⟨st, hdel, _, ⟨P', hc', he'⟩, hvoid, hsec'⟩ :=
        delete_consistent P he c.sec hrec (split_at (P.lst c.sec) j hj) c hr hoff hnext rfl
      exact ⟨⟨st.pp, some st.cur⟩, st.result, by simp only [applyOp, hs, hdel, bind_ok, pure_eq], P', hc', he', hsec' ▸ hrec, Or.inl hvoid⟩

/-- the record keeps its length, so the cursor stays on it -/
theorem setTtl_steps {s : St} (ttl : Nat) (h : Inv s) (ha : Allowed s (.setTtl ttl)) :
    ∃ s' e, applyOp s (.setTtl ttl) = .ok (s', e) ∧ Inv s' := by
  obtain ⟨P, hc, he, hcur⟩ := h
  obtain ⟨⟨c, hs, hsome⟩, hnot⟩ := ha
  rw [hs] at hcur
  obtain ⟨hrec, hv | ⟨j, hon⟩⟩ := hcur
  · rw [hv] at hsome; cases hsome
  · have h41 := hnot c hs _ hon.rrType
    obtain ⟨hj, ob, oa, hsec, hoff, hnext, hleft, hr⟩ := hon
    obtain ⟨owner, f8, rd, pp', P', hrc, hgo, hf8, hset, _, hc', he', f1, f2, f3⟩ :=
      set_ttl_consistent P hc he c.sec hrec (split_at (P.lst c.sec) j hj) c hr hoff rfl h41 ttl
    have hne := P.ne_of_shape c.sec hrec (split_at (P.lst c.sec) j hj) owner (f8 ++ put16 rd.length ++ rd) (by rw [hrc]; simp) hgo hr
    refine ⟨⟨pp', some c⟩, none, by simp only [applyOp, hs, hset, bind_ok, pure_eq], P', hc', he', hrec, Or.inr ⟨j, ?_⟩⟩
    refine curOn_after_replace P P' c.sec hrec j hj _ owner ((f8.take 4 ++ put32 ttl) ++ put16 rd.length ++ rd) f1 f2 f3
      (by simp) hgo c rfl hoff ?_ hne hleft
    rw [hnext, hrc, piece_length owner hf8, piece_length owner (by rw [List.length_append, List.length_take, put32_length, hf8]; rfl)]

theorem setIp_steps {s : St} (ip : Bytes) (h : Inv s) (ha : Allowed s (.setIp ip)) :
    ∃ s' e, applyOp s (.setIp ip) = .ok (s', e) ∧ Inv s' := by
  obtain ⟨P, hc, he, hcur⟩ := h
  obtain ⟨c, hs, hsome⟩ := ha
  rw [hs] at hcur
  obtain ⟨hrec, hv | ⟨j, hon⟩⟩ := hcur
  · rw [hv] at hsome; cases hsome
  · by_cases hfam : (get16 s.pp.packet c.nameEnd = 1 ∧ ip.length = 4) ∨ (get16 s.pp.packet c.nameEnd = 28 ∧ ip.length = 16)
    · obtain ⟨hj, ob, oa, hsec, hoff, hnext, hleft, hr⟩ := hon
      obtain ⟨owner, f8, rd, pp', P', hrc, hgo, hf8, hrdl, hset, _, hc', he', f1, f2, f3⟩ :=
        set_ip_consistent P hc he c.sec hrec (split_at (P.lst c.sec) j hj) c hr hoff rfl ip hfam
      have hne := P.ne_of_shape c.sec hrec (split_at (P.lst c.sec) j hj) owner (f8 ++ put16 rd.length ++ rd) (by rw [hrc]; simp) hgo hr
      refine ⟨⟨pp', some c⟩, none, by simp only [applyOp, hs, hset, bind_ok, pure_eq], P', hc', he', hrec, Or.inr ⟨j, ?_⟩⟩
      refine curOn_after_replace P P' c.sec hrec j hj _ owner (f8 ++ put16 rd.length ++ ip) f1 f2 f3
        (by simp) hgo c rfl hoff ?_ hne hleft
      rw [hnext, hrc, piece_length owner hf8, piece_length owner hf8, hrdl]
    · obtain ⟨e, hset⟩ := setRrIp_refused (ip := ip) hon.rrType hfam
      exact ⟨⟨s.pp, some c⟩, some e, by simp only [applyOp, hs, hset, bind_ok, pure_eq], P, hc, he, hrec, Or.inr ⟨j, hon⟩⟩

theorem setName_steps {s : St} (owner' : List (List UInt8)) (h : Inv s) (ha : Allowed s (.setName owner')) :
    ∃ s' e, applyOp s (.setName owner') = .ok (s', e) ∧ Inv s' := by
  obtain ⟨P, hc, he, hcur⟩ := h
  obtain ⟨hgo', hnot⟩ := ha
  cases hs : s.cur with
  | none => exact ⟨s, none, by simp only [applyOp, hs, pure_eq], P, hc, he, hs ▸ trivial⟩
  | some c =>
    rw [hs] at hcur
    obtain ⟨hrec, hv | ⟨j, hon⟩⟩ := hcur
    · have hset := C10.set_name_void s.pp c (encLabels owner' ++ [0]) (checkArg_ok owner' hgo') P.mc hv
      exact ⟨⟨s.pp, some c⟩, some .voidRecord, by simp only [applyOp, hs, hset, bind_ok, pure_eq], P, hc, he, hrec, Or.inl hv⟩
    · have h41 := hnot c hs _ hon.rrType
      obtain ⟨hj, ob, oa, hsec, hoff, hnext, hleft, hr⟩ := hon
      by_cases hsz : c.nameEnd - (P.start c.sec + ((P.lst c.sec).take j).flatten.length) < labSum owner' + 1 →
          s.pp.packet.length + (labSum owner' + 1) - (c.nameEnd - (P.start c.sec + ((P.lst c.sec).take j).flatten.length)) ≤ 65535
      · have hleft2 : c.rrsLeft = ((P.lst c.sec).drop (j + 1)).length := by rw [hleft, List.length_drop, Nat.sub_sub]
        obtain ⟨pp', c', P', rc', hset, _, hc', he', f2, f3, ⟨rest, hrc'⟩, hne', hsec', hleft', f1, hoff', hnext', _⟩ :=
          set_name_consistent P he c.sec hrec (split_at (P.lst c.sec) j hj) c hr hoff hnext rfl rfl hleft2 h41 owner' hgo' hsz
        have hst : P'.start c.sec = P.start c.sec := P.start_congr P' c.sec f3 f2
        refine ⟨⟨pp', some c'⟩, none, by simp only [applyOp, hs, hset, mOk, bind_ok, pure_eq], P', hc', he', hsec' ▸ hrec, Or.inr ⟨j, ?_⟩⟩
        rw [hsec']
        exact curOn_after_replace P P' c.sec hrec j hj rc' owner' rest f1 f2 f3 hrc' hgo' c' hsec' (by rw [hoff', hoff])
          (by rw [hnext', hst]) (by rw [hne', hst]) (by rw [hleft', hleft])
      · -- refused for size: only the cache is emptied
        have hgrow : c.nameEnd - (P.start c.sec + ((P.lst c.sec).take j).flatten.length) < labSum owner' + 1 :=
          Classical.byContradiction (fun hn => hsz (fun h => absurd h hn))
        have hbig : s.pp.packet.length + (labSum owner' + 1) - (c.nameEnd - (P.start c.sec + ((P.lst c.sec).take j).flatten.length)) > 65535 :=
          Nat.lt_of_not_le (fun hn => hsz (fun _ => hn))
        have hset := C10.set_name_too_large P c.sec hrec (split_at (P.lst c.sec) j hj) c hr hoff rfl owner' hgo' hgrow hbig
        exact ⟨⟨{ s.pp with cached := none }, some c⟩, some .packetTooLarge, by simp only [applyOp, hs, hset, bind_ok, pure_eq],
          PlainObj.uncached P, Or.inl rfl, he, hrec, Or.inr ⟨j, hj, ob, oa, rfl, hoff, hnext, hleft, hr⟩⟩

theorem insert_steps {s : St} (sec : Section) (rr : Bytes) (h : Inv s) (ha : Allowed s (.insert sec rr)) :
    ∃ s' e, applyOp s (.insert sec rr) = .ok (s', e) ∧ Inv s' := by
  obtain ⟨hrec, hpc, hqr⟩ := ha
  cases hs : s.cur with
  | some c => exact ⟨s, none, by simp only [applyOp, hs, pure_eq], h⟩
  | none =>
    obtain ⟨P, hc, he, _⟩ := h
    -- too large and full are refused with the object unchanged; otherwise the record goes in
    obtain ⟨pp', e, hins, hinv⟩ : ∃ pp' e, insertRR s.pp sec rr = .ok (pp', e) ∧ Inv ⟨pp', none⟩ := by
      by_cases hsize : s.pp.packet.length + rr.length ≤ 8192
      · by_cases hcount : (P.lst sec).length < 65535
        · obtain ⟨pp', hins, P', hc', he'⟩ := insert_consistent P hc he sec hrec rr (hpc _) hsize hcount
            (fun hna => P.hdr_get16 (k := 2) (by decide) ▸ hqr hna)
          exact ⟨pp', none, hins, P', hc', he', trivial⟩
        · exact ⟨s.pp, _, C10.insert_full s.pp sec rr P.mc hsize (P.sectionCount sec hrec) (Nat.le_of_not_lt hcount),
            P, hc, he, trivial⟩
      · exact ⟨s.pp, _, C10.insert_too_large s.pp sec rr P.mc (Nat.lt_of_not_le hsize), P, hc, he, trivial⟩
    exact ⟨⟨pp', none⟩, e, by simp only [applyOp, hs, hins, bind_ok, pure_eq], hinv⟩

theorem Inv.hdr_len {s : St} (h : Inv s) : 12 ≤ s.pp.packet.length := by
  obtain ⟨P, _⟩ := h
  have := P.len
  omega

/-- a header setter (bytes 0–3 only) under the QR guard; with an iterator open the borrow checker refuses it and
nothing happens -/
theorem header_steps {s : St} (h : Inv s) {set : Res Bytes} {p' : Bytes} {lo hi : Nat} (hset : set = .ok p')
    (hse : C12.sameExcept s.pp.packet p' lo hi) (hhi : hi ≤ 4)
    (hqr : get16 p' 2 / 32768 % 2 = 0 → get16 s.pp.packet 6 = 0 ∧ get16 s.pp.packet 8 = 0) :
    ∃ s' e, (match s.cur with
        | some _ => pure (s, none)
        | none => do let p ← set; pure (⟨{ s.pp with packet := p }, none⟩, none) : Res (St × Option Err)) = .ok (s', e) ∧ Inv s' := by
  cases hs : s.cur with
  | some c => exact ⟨s, none, rfl, h⟩
  | none =>
    obtain ⟨P, hc, he, _⟩ := h
    have h6 := (P.hdr_get16 (k := 6) (by decide)).trans P.hca
    have h8 := (P.hdr_get16 (k := 8) (by decide)).trans P.hcn
    obtain ⟨P', hc', he'⟩ := header_consistent P hc he p' ⟨hse.1, fun j hj => hse.2 j (by omega)⟩ (fun hq => by
      obtain ⟨z6, z8⟩ := hqr hq
      exact ⟨List.length_eq_zero_iff.1 (h6 ▸ z6), List.length_eq_zero_iff.1 (h8 ▸ z8)⟩)
    exact ⟨⟨{ s.pp with packet := p' }, none⟩, none, by rw [hset]; rfl, P', hc', he', trivial⟩

/-- one allowed step from a state that satisfies the invariant returns (no panic, no divergence, no internal error) and
the invariant holds again -/
theorem step_spec {s : St} (op : Op) (h : Inv s) (ha : Allowed s op) : ∃ s' e, applyOp s op = .ok (s', e) ∧ Inv s' := by
  cases op with
  | openIter sec =>
    obtain ⟨P, hc, he, _⟩ := h
    exact ⟨_, _, rfl, P, hc, he, ha, Or.inl rfl⟩
  | close =>
    obtain ⟨P, hc, he, _⟩ := h
    exact ⟨_, _, rfl, P, hc, he, trivial⟩
  | next => exact next_steps h
  | delete => exact delete_steps h
  | setTtl ttl => exact setTtl_steps ttl h ha
  | setIp ip => exact setIp_steps ip h ha
  | setName owner => exact setName_steps owner h ha
  | insert sec rr => exact insert_steps sec rr h ha
  | recompute =>
    cases hs : s.cur with
    | some c => exact ⟨s, none, by simp only [applyOp, hs, pure_eq], h⟩
    | none =>
      obtain ⟨P, hc, he, _⟩ := h
      exact ⟨⟨s.pp, none⟩, none, by simp only [applyOp, hs, recompute_plain s.pp P.mc, bind_ok, pure_eq], P, hc, he, trivial⟩
  | setTid n =>
    obtain ⟨p', hset, hse, _, hword⟩ := C12.set_tid_frame s.pp.packet n h.hdr_len
    -- the flags word is untouched, and the object already respects the QR guard
    refine header_steps h hset hse (by omega) (fun hq => ?_)
    obtain ⟨P, _⟩ := h
    have hw : get16 p' 2 = get16 s.pp.packet 2 := hword
    rw [hw, P.hdr_get16 (by decide)] at hq
    obtain ⟨hA, hN⟩ := P.hqr hq
    exact ⟨by rw [P.hdr_get16 (by decide), P.hca, hA]; rfl, by rw [P.hdr_get16 (by decide), P.hcn, hN]; rfl⟩
  | setFlags n =>
    obtain ⟨p', hset, hse, _⟩ := C12.set_flags_frame s.pp.packet n h.hdr_len
    exact header_steps h hset hse (by omega) (ha p' hset)
  | setResponse b =>
    obtain ⟨p', hset, hse, _⟩ := C12.set_response_frame s.pp.packet b h.hdr_len
    exact header_steps h hset hse (by omega) (ha p' hset)
  | setRcode n =>
    obtain ⟨p', hset, hse, _⟩ := C12.set_rcode_frame s.pp.packet n h.hdr_len
    exact header_steps h hset hse (by omega) (ha p' hset)
  | setOpcode n =>
    obtain ⟨p', hset, hse, _⟩ := C12.set_opcode_frame s.pp.packet n h.hdr_len
    exact header_steps h hset hse (by omega) (ha p' hset)

theorem step_inv {s s' : St} {e : Option Err} (op : Op) (h : Inv s) (ha : Allowed s op) (hrun : applyOp s op = .ok (s', e)) : Inv s' := by
  obtain ⟨s'', e'', hstep, hinv⟩ := step_spec op h ha
  rw [hstep] at hrun
  cases hrun
  exact hinv

theorem step_total {s : St} (op : Op) (h : Inv s) (ha : Allowed s op) : ∃ s' e, applyOp s op = .ok (s', e) := by
  obtain ⟨s', e, hstep, _⟩ := step_spec op h ha
  exact ⟨s', e, hstep⟩

/-- a run of a script: the errors reported along the way do not stop it -/
def run : St → List Op → Res St
  | s, [] => .ok s
  | s, op :: ops =>
    match applyOp s op with
    | .ok (s', _) => run s' ops
    | .err e => .err e
    | .panic => .panic
    | .diverge => .diverge

/-- every operation of the script is allowed in the state in which it is issued -/
def AllowedRun : St → List Op → Prop
  | _, [] => True
  | s, op :: ops => Allowed s op ∧ ∀ s' e, applyOp s op = .ok (s', e) → AllowedRun s' ops

/-- the starting point: any accepted packet after `recompute` (or the decompress-first step) -/
theorem inv_start {pp0 : PP} {p : Bytes} {v : View} (F : Fresh pp0 p v) (hmp : pp0.maxPayload = v.maxPayload) :
    ∃ (L : C03.Layout p) (o : C05.Output p L) (v2 : View), Inv ⟨pp0.rebased o.bytes v2, none⟩ := by
  obtain ⟨L, o, v2, _, _, ⟨P, hc, he⟩⟩ := after_decompression F hmp
  exact ⟨L, o, v2, P, hc, he, trivial⟩

/-- C08, total correctness of scripts: from a consistent state every finite script of allowed operations runs to the
end (no panic, no divergence, no internal error) and ends in a consistent state -/
theorem run_total : ∀ (ops : List Op) (s : St), Inv s → AllowedRun s ops → ∃ s', run s ops = .ok s' ∧ Inv s' := by
  intro ops
  induction ops with
  | nil => intro s h _; exact ⟨s, rfl, h⟩
  | cons op ops ih =>
    intro s h ha
    obtain ⟨ha1, ha2⟩ := ha
    obtain ⟨s1, e1, hstep, hinv⟩ := step_spec op h ha1
    obtain ⟨s', hr, hi⟩ := ih s1 hinv (ha2 s1 e1 hstep)
    refine ⟨s', ?_, hi⟩
    unfold run
    rw [hstep]
    exact hr

/-- C08 over operation sequences: from a consistent object (what decompression / recompute / the first mutation
through an iterator leave of any accepted packet), after any finite script of allowed operations — opening and
advancing record-section iterators, deleting, changing TTL, address and owner name through them, inserting records,
the header setters, recompute — the object is consistent (`consistent_view`) and the open iterator's cursor, if any,
is void or stands on a record of its section -/
theorem run_inv : ∀ (ops : List Op) (s s' : St), Inv s → AllowedRun s ops → run s ops = .ok s' → Inv s' := by
  intro ops s s' h ha hr
  obtain ⟨s'', hr', hi⟩ := run_total ops s h ha
  rw [hr'] at hr
  cases hr
  exact hi

/-- the preconditions are satisfiable: walking into a section and deleting what is found is always allowed -/
example (s : St) : AllowedRun s [.openIter .answer, .next, .delete, .next, .close, .recompute] := by
  simp [AllowedRun, Allowed, Section.isRec]

/-- tie to the current source text: `rrcount_inc`, `rrcount_dec`, `insertion_offset` of parsed_packet.rs with the
`set_*count` writers of dns_sector.rs, re-translated on every run (`Generated/TrCounts.lean`, `Tie/Counts.lean`) -/
theorem source_counts_tie (pp : PP) (s : Section) :
    (Tr.Counts.rrcount_inc pp.packet s >>= fun r => Res.ok r.2) = (rrcountInc pp s >>= Tie.incResult) ∧
    Tr.Counts.rrcount_dec pp.packet s = (rrcountDec pp s >>= fun r => Res.ok (r.2, r.1.packet)) ∧
    Tr.Counts.insertion_offset pp.packet pp.offsetAnswers pp.offsetNameservers pp.offsetAdditional s
      = insertionOffset pp s :=
  ⟨Tie.rrcount_inc_eq pp s, Tie.rrcount_dec_eq pp s, Tie.insertion_offset_eq pp s⟩

/-- `Tr.Counts.insert_rr` is `ParsedPacket::insert_rr` as re-translated from /repo/src/parsed_packet.rs on every run (with
`rrcount_inc`, `insertion_offset`, the `set_*count` writers and `recompute`; `Compress::uncompress` is the model's): on
an object that needs no decompression and whose section starts lie inside the packet it computes what the model's
`insertRR` computes, a refusal of the model being an error of the source (`Tie/Insert.lean`, where
`insert_rr_compressed` does the same for the path through decompression) -/
theorem source_insert_rr (pp : PP) (s : Section) (rr : Bytes) (hmc : pp.maybeCompressed = false) (hoff : Tie.OffOK pp) :
    Tr.Counts.insert_rr pp.packet pp.offsetQuestion pp.offsetAnswers pp.offsetNameservers pp.offsetAdditional pp.offsetEdns
        pp.ednsCount pp.extRcode pp.ednsVersion pp.extFlags pp.maybeCompressed pp.cached s rr
      = (insertRR pp s rr >>= Tie.insFinish) :=
  Tie.insert_rr_plain pp s rr hmc hoff

/-- `ParsedPacket::recompute` of the current source (re-translated on every run; it calls the translated `DNSSector::new` and
`parse`) is the model's `PP.recompute`, a refusal of the model being an error of the source -/
theorem source_recompute (q : PP) :
    Tr.Counts.recompute q.packet q.offsetQuestion q.offsetAnswers q.offsetNameservers q.offsetAdditional q.offsetEdns
        q.ednsCount q.extRcode q.ednsVersion q.extFlags q.maybeCompressed q.cached
      = (q.recompute >>= fun r => match r.2 with | some e => Res.err e | none => Res.ok (Tie.ppTup r.1)) :=
  Tie.recompute_eq q

end Dns.C08
