/-
  C06 — Compression keeps the message, stays valid and never grows the packet: `compress_spec`, for every
  accepted packet whose names are all written without pointers (`PointerFree`; the output of decompression
  is one, `decompressed_pointerFree`); `roundtrip`: decompressing the result gives the input back up to case.
-/
import DnsModel.Lemmas.CompressRun
import DnsModel.Tie.Reader
import DnsModel.Lemmas.CiTrans
import DnsModel.Theorems.C05
import DnsModel.Lemmas.Rebuild
namespace Dns.C06
open Dns Res

/-- every name of the packet the library understands is written out in full -/
structure PointerFree (u : Bytes) (L : C03.Layout u) : Prop where
  q : ∃ ls, PlainAt u 12 ls ∧ L.qe = 12 + (labSum ls + 1)
  recs : ∀ r ∈ L.answers ++ L.authority ++ L.additional, PlainRec u r

private theorem section_fold {pp : PP} {sec : Section} {l : List RecPos} {off e : Nat} {ob oe : Bool}
    (hl : RRsL pp.packet sec l off ob e oe) (hlen : l.length < 65536) (hp : ∀ r ∈ l, PlainRec pp.packet r)
    (step : PP → Cursor → Res (Option Cursor))
    (hwalk : ∃ cs, collectWalk pp step (l.length + 1) (Cursor.new sec) = .ok cs ∧ cs.map posOf = l.map some)
    (dict : SuffixDict) (out : Bytes) (hinv : DictInv dict out) :
    ∃ (dict' : SuffixDict) (em : Bytes),
      walkFold pp step (compressItem pp true) sectionFuel (Cursor.new sec) (dict, out) = .ok (dict', out ++ em) ∧
      em.length ≤ e - off ∧ DictInv dict' (out ++ em) ∧
      ∀ tl : Bytes, ∃ l', RRsL (out ++ em ++ tl) sec l' out.length ob (out.length + em.length) oe ∧
        RunCi pp.packet (out ++ em ++ tl) l l' ∧
        l'.map (fun r => get16 (out ++ em ++ tl) r.ne) = l.map (fun r => get16 pp.packet r.ne) := by
  obtain ⟨cs, hcs, hpos⟩ := hwalk
  rw [walkFold_collect_le _ hcs (Nat.succ_le_of_lt (Nat.lt_trans hlen (by decide)))]
  exact fold_compress hl hp cs hpos dict out hinv

private theorem compress_pieces {u : Bytes} {v : View} (h : parse u = .ok v) (L : C03.Layout u) (hpf : PointerFree u L) :
    ∃ (qls qls' : List (List UInt8)) (ema emn emr : Bytes) (la' ln' lr' : List RecPos) (c : Bytes),
      c = u.take 12 ++ ((encLabels qls ++ [0]) ++ (u.drop L.qe).take 4) ++ ema ++ emn ++ emr ∧
      compress u = .ok c ∧ PlainAt u 12 qls ∧ L.qe = 12 + (labSum qls + 1) ∧ lsCi qls' qls ∧
      ValidName c 12 qls' L.qe ∧
      RRsL c .answer la' (L.qe + 4) false (L.qe + 4 + ema.length) L.o2 ∧ RunCi u c L.answers la' ∧
      RRsL c .nameServers ln' (L.qe + 4 + ema.length) L.o2 (L.qe + 4 + ema.length + emn.length) L.o3 ∧
      RunCi u c L.authority ln' ∧
      RRsL c .additional lr' (L.qe + 4 + ema.length + emn.length) L.o3 (L.qe + 4 + ema.length + emn.length + emr.length) L.o4 ∧
      RunCi u c L.additional lr' ∧
      L.qe + 4 + ema.length ≤ L.e2 ∧ L.e2 + emn.length ≤ L.e3 ∧ L.e3 + emr.length ≤ u.length := by
  have hl12 : 12 ≤ u.length := (C02.accepted_wf u v h).1
  have hH : (u.take 12).length = 12 := List.length_take_of_le hl12
  obtain ⟨wa, wn, _, wr⟩ := C03.walks_of h L
  rw [C03.no_opt_outside_additional L.ha (by decide)] at wa
  rw [C03.no_opt_outside_additional L.hn (by decide)] at wn
  obtain ⟨qe', hqe', hqw⟩ := C03.question_walk h
  obtain rfl : qe' = L.qe := nameEnds_functional hqe' L.hq.1
  obtain ⟨qls, hpq, hqeq⟩ := hpf.q
  obtain ⟨d1, qem, qls', hq, _, _, hqci, hdq, hqval⟩ := compress_question (pp := PP.ofView u v) hpq L.hq.2 {}
    (u.take 12) (DictInv.empty _)
  obtain rfl : qem = encLabels qls ++ [0] := compress_question_first (pp := PP.ofView u v) hpq L.hq.2 (u.take 12) hq
  obtain ⟨d2, ema, fa, hla, hda, halla⟩ := section_fold (pp := PP.ofView u v) L.ha (L.na ▸ get16_lt u 6)
    (fun r hr => hpf.recs r (by simp [hr])) nextSkippingOpt wa d1 _ hdq
  obtain ⟨d3, emn, fn, hln, hdn, halln⟩ := section_fold (pp := PP.ofView u v) L.hn (L.nn ▸ get16_lt u 8)
    (fun r hr => hpf.recs r (by simp [hr])) nextSkippingOpt wn d2 _ hda
  obtain ⟨d4, emr, fr, hlr, _, hallr⟩ := section_fold (pp := PP.ofView u v) L.hr (L.nr ▸ get16_lt u 10)
    (fun r hr => hpf.recs r (by simp [hr])) nextIncludingOpt wr d3 _ hdn
  have hq4 : ((u.drop L.qe).take 4).length = 4 := length_take_drop L.hq.2
  have hpre : (u.take 12 ++ ((encLabels qls ++ [0]) ++ (u.drop L.qe).take 4)).length = L.qe + 4 := by
    rw [List.length_append, List.length_append, hH, hq4, encLen_eq, hqeq]
    exact (Nat.add_assoc _ _ _).symm
  have hpk : (PP.ofView u v).packet = u := rfl
  simp only [hpk] at hq hqval fa fn fr halla halln hallr
  obtain ⟨la', rla, cla, _⟩ := halla (emn ++ emr)
  obtain ⟨ln', rln, cln, _⟩ := halln emr
  obtain ⟨lr', rlr, clr, _⟩ := hallr []
  have hvq := hqval (ema ++ emn ++ emr)
  rw [hpre] at rla
  rw [List.length_append, hpre] at rln
  rw [List.length_append, List.length_append, hpre] at rlr
  rw [hH, encLen_eq, ← hqeq] at hvq
  rw [List.append_nil] at rlr clr
  rw [← List.append_assoc _ emn emr] at rla cla
  rw [← List.append_assoc _ (ema ++ emn) emr, ← List.append_assoc _ ema emn] at hvq
  refine ⟨qls, qls', ema, emn, emr, la', ln', lr', _, rfl, ?_, hpq, hqeq, hqci, hvq, rla, cla, rln, cln, rlr, clr,
    Nat.add_le_of_le_sub' L.ha.bounds.1 hla, Nat.add_le_of_le_sub' L.hn.bounds.1 hln, Nat.add_le_of_le_sub' L.hr.bounds.1 hlr⟩
  unfold compress
  simp only [failIf, DNS_HEADER_SIZE, Nat.not_lt.2 hl12, decide_false, Bool.false_eq_true, if_false, bind_ok,
    slice_ok (p := u) (a := 0) (b := 12) ⟨Nat.zero_le _, hl12⟩, parsePP, h, pure_eq, List.drop_zero, Nat.sub_zero,
    walkFold_collect_le _ hqw (by decide : 2 ≤ sectionFuel), foldRes, Res.bind, hq, fa, fn, fr]

/-- **C06**: compression succeeds; the result is no longer than the input, satisfies the acceptance policy, has
the same header and question bytes, and its records are, one by one and in order, the input's up to the case of
names (`RunCi`): names decode to labels equal up to ASCII case, type/class/TTL and all other data (OPT included)
are identical.  `ValidName` of the result with `lsCi` labels says that every pointer written designates a name
equal up to case to the suffix it stands for. -/
theorem compress_spec {u : Bytes} {v : View} (h : parse u = .ok v) (L : C03.Layout u) (hpf : PointerFree u L) :
    ∃ c, compress u = .ok c ∧ c.length ≤ u.length ∧ WF c ∧ c.take 12 = u.take 12 ∧
      (c.drop 12).take (L.qe + 4 - 12) = (u.drop 12).take (L.qe + 4 - 12) ∧
      ∃ L' : C03.Layout c,
        (∃ ls ls', ValidName u 12 ls L.qe ∧ ValidName c 12 ls' L'.qe ∧ lsCi ls' ls ∧
          (c.drop L'.qe).take 4 = (u.drop L.qe).take 4) ∧
        RunCi u c L.answers L'.answers ∧ RunCi u c L.authority L'.authority ∧
        RunCi u c L.additional L'.additional := by
  obtain ⟨qls, qls', ema, emn, emr, la', ln', lr', c, hc, hrun, hpq, hqeq, hqci, hvq, rla, cla, rln, cln, rlr, clr,
    h1, h2, h3⟩ := compress_pieces h L hpf
  have hl12 : 12 ≤ u.length := (C02.accepted_wf u v h).1
  have hH : (u.take 12).length = 12 := List.length_take_of_le hl12
  have hq4 : ((u.drop L.qe).take 4).length = 4 := length_take_drop L.hq.2
  have hspan : L.qe + 4 - 12 = labSum qls + 1 + 4 := by rw [hqeq, Nat.add_assoc 12, Nat.add_sub_cancel_left]
  have hQ : ((encLabels qls ++ [0]) ++ (u.drop L.qe).take 4).length = L.qe + 4 - 12 := by
    rw [List.length_append, hq4, encLen_eq, hspan]
  have hP : (u.take 12 ++ ((encLabels qls ++ [0]) ++ (u.drop L.qe).take 4)).length = L.qe + 4 := by
    rw [List.length_append, hH, hQ, Nat.add_sub_of_le (Nat.le_trans (Nat.le_of_lt hvq.2.1.lt) (Nat.le_add_right _ _))]
  have hclen : c.length = L.qe + 4 + ema.length + emn.length + emr.length := by
    rw [hc, List.length_append, List.length_append, List.length_append, hP]
  have hle : c.length ≤ u.length :=
    hclen ▸ Nat.le_trans (Nat.add_le_add_right (Nat.le_trans (Nat.add_le_add_right h1 _) h2) _) h3
  have hqe : 12 + (encLabels qls ++ [0]).length = L.qe := by rw [encLen_eq, hqeq]
  rw [← hclen] at rlr
  rw [← hP, ← List.length_append] at rla
  rw [← hP, ← List.length_append, ← List.length_append] at rln
  rw [← hP, ← List.length_append, ← List.length_append] at rlr
  obtain ⟨hwf, hhdr, L', hqe', hwinQ, rfl, rfl, rfl⟩ := layout_rebuilt (C02.accepted_wf u v h) L hc (hqe ▸ hvq) rla rln rlr
    cla.length cln.length clr.length
  rw [hqe] at hqe'
  refine ⟨c, hrun, hle, hwf, hhdr, ?_, L', ⟨qls, qls', ?_, hqe' ▸ hvq, hqci, hqe' ▸ hwinQ⟩, cla, cln, clr⟩
  · -- the question is byte-identical: its name was written with the dictionary still empty
    have hwc := window_eq (u := c) (A := u.take 12) (w := (encLabels qls ++ [0]) ++ (u.drop L.qe).take 4) (B := ema ++ emn ++ emr)
      (by rw [hc]; simp only [List.append_assoc])
    rw [hH, hQ] at hwc
    have hR : (u.drop 12).take (L.qe + 4 - 12) = (encLabels qls ++ [0]) ++ (u.drop L.qe).take 4 := by
      rw [hspan, List.take_add, hpq.1, List.drop_drop, ← hqeq]
    rw [hwc, hR]
  · rw [hqeq, ← Nat.add_assoc]
    exact hpq.valid

/-- the hypothesis of `compress_spec` holds of the output of decompression (C05) -/
theorem decompressed_pointerFree {p : Bytes} {v : View} (h : parse p = .ok v) {L : C03.Layout p} (o : C05.Output p L) :
    ∃ L' : C03.Layout o.bytes, PointerFree o.bytes L' := by
  obtain ⟨_, L', hq', _, _, _, _, _, _, _, _, _, hself⟩ := C05.output_layout h o
  refine ⟨L', ?_, ?_⟩
  · obtain ⟨ls, hv, hqc⟩ := hq'
    have hl : 12 ≤ p.length := (C02.accepted_wf p v h).1
    have hH : (p.take 12).length = 12 := by simp; omega
    have hwin : (o.bytes.drop 12).take (o.qc.length) = (encLabels ls ++ [0]) ++ (o.bytes.drop L'.qe).take 4 := by
      have := window_eq (u := o.bytes) (A := p.take 12) (w := o.qc) (B := o.pa.flatten ++ o.pn.flatten ++ o.pr.flatten)
        (by simp [C05.Output.bytes])
      rw [hH] at this
      rw [this]; exact hqc
    have hp : PlainAt o.bytes 12 ls := plainAt_of_window hwin (validName_ok hv)
    exact ⟨ls, hp, by have := (validName_functional hv hp.valid).2; omega⟩
  · intro r hr
    have hs := hself r hr
    simp only [List.mem_append] at hr
    rcases hr with (hr | hr) | hr
    · obtain ⟨ob, oa, hpos⟩ := RRsL.mem_pos L'.ha r hr
      exact plainRec_of_selfCanon hpos hs
    · obtain ⟨ob, oa, hpos⟩ := RRsL.mem_pos L'.hn r hr
      exact plainRec_of_selfCanon hpos hs
    · obtain ⟨ob, oa, hpos⟩ := RRsL.mem_pos L'.hr r hr
      exact plainRec_of_selfCanon hpos hs

theorem compress_decompressed {p : Bytes} {v : View} (h : parse p = .ok v) {u : Bytes} (hu : uncompress p = .ok u) :
    ∃ c, compress u = .ok c ∧ c.length ≤ u.length ∧ WF c := by
  obtain ⟨L, o, ho⟩ := C05.decompress_ok h
  rw [ho] at hu
  simp at hu
  subst hu
  obtain ⟨L', hpf⟩ := decompressed_pointerFree h o
  obtain ⟨v', h'⟩ := C02.wf_accepted _ (C05.output_layout h o).1
  obtain ⟨c, hc, hlen, hwf, _⟩ := compress_spec h' L' hpf
  exact ⟨c, hc, hlen, hwf⟩

private theorem fits_of_run {u : Bytes} {sec : Section} {l : List RecPos} {off e : Nat} {ob oe : Bool}
    (h : RRsL u sec l off ob e oe) : ∀ r ∈ l, r.ne + 10 ≤ u.length := by
  intro r hr
  obtain ⟨_, _, hpos⟩ := RRsL.mem_pos h r hr
  exact hpos.2.1

/-- round trip: decompressing the compressed packet gives back the input up to the case of names -/
theorem roundtrip {u : Bytes} {v : View} (h : parse u = .ok v) (L : C03.Layout u) (hpf : PointerFree u L) :
    ∃ c u2, compress u = .ok c ∧ uncompress c = .ok u2 ∧ u2.take 12 = u.take 12 ∧
      ∃ L2 : C03.Layout u2,
        (∃ ls ls2, ValidName u 12 ls L.qe ∧ ValidName u2 12 ls2 L2.qe ∧ lsCi ls2 ls ∧
          (u2.drop L2.qe).take 4 = (u.drop L.qe).take 4) ∧
        RunCi u u2 L.answers L2.answers ∧ RunCi u u2 L.authority L2.authority ∧
        RunCi u u2 L.additional L2.additional := by
  obtain ⟨c, hc, _, hwf, hhdr, _, L', ⟨ls, ls', hvu, hvc, hci, hq4⟩, ca, cn, cr⟩ := compress_spec h L hpf
  obtain ⟨vc, hpc⟩ := C02.wf_accepted c hwf
  obtain ⟨Lc, o, ho⟩ := C05.decompress_ok hpc
  obtain ⟨eq, ea, en, er⟩ := C05.layout_unique Lc L'
  obtain ⟨_, L2, hq2, ha2, hn2, hr2, _⟩ := C05.output_layout hpc o
  have hlc : 12 ≤ c.length := hwf.1
  have hHc : (c.take 12).length = 12 := by simp; omega
  refine ⟨c, o.bytes, hc, ho, ?_, L2, ?_, ?_, ?_, ?_⟩
  · rw [← hhdr]
    simp only [C05.Output.bytes, List.append_assoc]
    rw [List.take_append_of_le_length (by omega), List.take_of_length_le (by omega)]
  · obtain ⟨lsc, hvlc, hqc⟩ := o.hq
    obtain ⟨l2, hvl2, hq2'⟩ := hq2
    rw [eq] at hvlc hqc
    have e1 : lsc = ls' := (validName_functional hvlc hvc).1
    subst e1
    rw [hqc] at hq2'
    have e2 : encLabels lsc ++ 0 :: (c.drop L'.qe).take 4 = encLabels l2 ++ 0 :: (o.bytes.drop L2.qe).take 4 := by
      simpa [List.append_assoc] using hq2'
    have e3 : lsc = l2 := encLabels_inj (validName_ok hvlc).1 (validName_ok hvl2).1 _ _ e2
    subst e3
    have e4 := List.append_cancel_left e2
    simp only [List.cons.injEq, true_and] at e4
    exact ⟨ls, lsc, hvu, hvl2, hci, by rw [← e4, hq4]⟩
  · have hca := o.ha; rw [ea] at hca
    exact runCi_transfer L'.ha L2.ha hca ha2 ca (fits_of_run L.ha)
  · have hcn := o.hn; rw [en] at hcn
    exact runCi_transfer L'.hn L2.hn hcn hn2 cn (fits_of_run L.hn)
  · have hcr := o.hr; rw [er] at hcr
    exact runCi_transfer L'.hr L2.hr hcr hr2 cr (fits_of_run L.hr)

/-! non-vacuity: the expanded sample of C05 compresses back to the original sample, the answer's owner name
replaced by a pointer to the question -/
example : compress C05.okExpanded = .ok C02.okPacket := by decide +kernel

/-! Tie to the source text: the readers and the suffix dictionary's comparison are re-translated from
/repo/src/compress.rs by rs2lean.py on every run (`Generated/TrReader.lean`) and proved equal to the model
functions used above (`Tie/Reader.lean`). -/
theorem source_reader_tie (p pre n1 n2 : Bytes) (off : Nat) :
    Tr.Reader.raw_name_len p = rawNameLen p ∧
    Tr.Reader.raw_name_len_after_decompression p off = rawNameLenAfterDecompression p off ∧
    Tr.Reader.copy_uncompressed_name pre p off
      = (copyUncompressedName p off >>= fun r => Res.ok ((r.1.length, r.2), pre ++ r.1)) ∧
    Tr.Reader.raw_names_eq_ignore_case n1 n2 = .ok (rawNamesEqIgnoreCase n1 n2) :=
  Tie.reader_tie p pre n1 n2 off

end Dns.C06
