/-
  C08 — A mutated packet object always matches a fresh parse of its own bytes.

  `Consistent pp` is the invariant: the object is a plain object (`PlainObj`: header, question, three lists of
  canonical record pieces, the section starts and counts that follow from them, flag "may contain pointers" cleared),
  its question cache is empty or holds the question, and its EDNS summary is the one its additional pieces determine
  (`EdnsOK`, Lemmas/EdnsPieces.lean).
  * `consistent_view`: a consistent object's bytes are accepted by the parser, which reports exactly the section
    starts the object holds and exactly its EDNS summary (position and count of options, extended rcode, version,
    flags, payload size); the bytes are pointer-free (so the cleared flag is justified); reading the question through
    the cache gives what a cache-less read gives.  `consistent_counts`: the header counts are the numbers of records,
    and a section start is absent exactly when the section is empty.
  * every successful operation keeps the invariant: `after_decompression` / `recompute_consistent` (what `recompute`,
    and the first `set_raw_name` / `delete`, make of any accepted packet), `iter_uncompress_consistent` (in-place
    decompression through an iterator), `first_touch_consistent`, `insert_*_consistent`, `delete_consistent` (deleting
    the OPT record clears the summary), `set_ttl_consistent`, `set_ip_consistent`, `set_name_consistent`,
    `header_consistent`; any sequence of them does (`run_inv`, `run_total` in Theorems/C08Seq.lean).  `rename_fresh`: a
    successful object-level rename leaves exactly the view of a fresh parse (flag set, as after `parse`).
  * `set_name_consistent` also states the cursor clause: after `set_raw_name` the cursor still designates the record
    (same start, new name end, new end) and `next` yields the record that followed, or the end of the section.

  Excluded by hypothesis (known findings, by design): question insertion/deletion (KF1, KF4), the OPT
  record as the target of set-name / set-TTL (KF5), clearing QR with answers present (KF3); setters
  on a still-compressed object (KF2) are covered by the script correspondence and the view oracle only.
-/
import DnsModel.Theorems.C06
import DnsModel.Theorems.C10
import DnsModel.Theorems.C11
namespace Dns.C08
open Dns Res

/-- the question a plain object holds, as the cache stores it -/
def questionOf {pp : PP} (P : PlainObj pp) : Bytes × Nat × Nat := (encLabels P.qls ++ [0], get16 P.q4 0, get16 P.q4 2)

/-- C08's invariant: the object is a plain object (its bytes parse to the view it records), its question cache is empty
or holds the question of the bytes, and its EDNS summary is the one the additional section determines -/
def Consistent (pp : PP) : Prop := ∃ P : PlainObj pp, (pp.cached = none ∨ pp.cached = some (questionOf P)) ∧ EdnsOK P

theorem PlainObj.pointerFree {pp : PP} (P : PlainObj pp) : ∃ L : C03.Layout pp.packet, C06.PointerFree pp.packet L := by
  obtain ⟨L, hqe, _, _, hself⟩ := P.layout
  refine ⟨L, ⟨P.qls, ?_, by rw [hqe]; omega⟩, ?_⟩
  · have := plainAt_of_eq (u := pp.packet) (A := P.hdr) (B := P.q4 ++ P.A.flatten ++ P.N.flatten ++ P.R.flatten) (ls := P.qls)
      (by rw [P.bytes]; simp) P.hgq.1 P.hgq.2.1 P.hgq.2.2
    rw [P.hh] at this
    exact this
  · intro r hr
    have hs := hself r hr
    simp only [List.mem_append] at hr
    rcases hr with (hr | hr) | hr
    · obtain ⟨ob, oa, hpos⟩ := L.ha.mem_pos r hr
      exact plainRec_of_selfCanon hpos hs
    · obtain ⟨ob, oa, hpos⟩ := L.hn.mem_pos r hr
      exact plainRec_of_selfCanon hpos hs
    · obtain ⟨ob, oa, hpos⟩ := L.hr.mem_pos r hr
      exact plainRec_of_selfCanon hpos hs

/-- the cache is not part of what makes an object plain -/
def PlainObj.uncached {pp : PP} (P : PlainObj pp) : PlainObj { pp with cached := none } :=
  ⟨P.hdr, P.q4, P.qls, P.A, P.N, P.R, P.o2, P.o3, P.o4, P.hh, P.hqd, P.hgq, P.hq4, P.hcl, P.hA, P.hN, P.hR, P.hca, P.hcn, P.hcr,
    P.hqr, P.bytes, P.oq, P.oa, P.on, P.oR, P.mc⟩

theorem question_read {pp : PP} (P : PlainObj pp) (hc : pp.cached = none) :
    questionRaw0 pp = .ok (some (questionOf P), { pp with cached := some (questionOf P) }) := by
  have hl := P.len
  have hv : ValidName pp.packet 12 P.qls (12 + labSum P.qls + 1) := by
    have := validName_at (u := pp.packet) (A := P.hdr) (B := P.q4 ++ P.A.flatten ++ P.N.flatten ++ P.R.flatten) (ls := P.qls)
      (by rw [P.bytes]; simp) P.hgq.1 P.hgq.2.1 P.hgq.2.2
    rw [P.hh] at this
    exact this
  have hcopy := copyUncompressedName_valid hv
  have e : pp.packet = (P.hdr ++ (encLabels P.qls ++ [0])) ++ P.q4 ++ (P.A.flatten ++ P.N.flatten ++ P.R.flatten) := by
    rw [P.bytes]; simp
  have hal : (P.hdr ++ (encLabels P.qls ++ [0])).length = 12 + labSum P.qls + 1 := by
    simp only [List.length_append, P.hh, encLabels_length, List.length_cons, List.length_nil]; omega
  have hag : Agree P.q4 pp.packet 0 (12 + labSum P.qls + 1) 4 := by
    have := agree_of_eq (p := P.q4) (A := P.hdr ++ (encLabels P.qls ++ [0])) (B := P.A.flatten ++ P.N.flatten ++ P.R.flatten) (a := 0) (n := 4) rfl (by rw [P.hq4]; omega)
    have hq : (P.q4.drop 0).take 4 = P.q4 := by simp [List.take_of_length_le (Nat.le_of_eq P.hq4)]
    rw [hq, ← e, hal] at this
    exact this
  have g0 : get16 pp.packet (12 + labSum P.qls + 1) = get16 P.q4 0 := by
    have := hag.get16 (i := 0) (by omega); simpa using this
  have g2 : get16 pp.packet (12 + labSum P.qls + 1 + 2) = get16 P.q4 2 := by
    have := hag.get16 (i := 2) (by omega); simpa using this
  have ht : be16 pp.packet (12 + labSum P.qls + 1) = .ok (get16 P.q4 0) := by
    rw [(be16_ok_of_le (p := pp.packet) (i := 12 + labSum P.qls + 1) (by omega)).1, g0]
  have hcl : be16 pp.packet (12 + labSum P.qls + 1 + 2) = .ok (get16 P.q4 2) := by
    rw [(be16_ok_of_le (p := pp.packet) (i := 12 + labSum P.qls + 1 + 2) (by omega)).1, g2]
  have hsl := sliceFrom_ok (p := pp.packet) (a := 12 + labSum P.qls + 1) (by omega)
  simp only [questionRaw0, hc, P.oq, hcopy, hsl, DNS_RR_TYPE_OFFSET, DNS_RR_CLASS_OFFSET, Nat.add_zero, ht, hcl, questionOf,
    bind_ok, pure_eq]

/-- C08: a consistent object matches a fresh parse of its bytes -/
theorem consistent_view {pp : PP} (h : Consistent pp) :
    (∃ v, parse pp.packet = .ok v ∧ v.offsetQuestion = pp.offsetQuestion ∧ v.offsetAnswers = pp.offsetAnswers ∧
      v.offsetNameservers = pp.offsetNameservers ∧ v.offsetAdditional = pp.offsetAdditional) ∧
    (∀ v, parse pp.packet = .ok v → pp.offsetEdns = v.offsetEdns ∧ pp.ednsCount = v.ednsCount ∧ pp.extRcode = v.extRcode ∧
      pp.ednsVersion = v.ednsVersion ∧ pp.extFlags = v.extFlags ∧ pp.maxPayload = v.maxPayload) ∧
    pp.maybeCompressed = false ∧ (∃ L : C03.Layout pp.packet, C06.PointerFree pp.packet L) ∧
    (∃ q pp1 pp2, questionRaw0 pp = .ok (some q, pp1) ∧ questionRaw0 { pp with cached := none } = .ok (some q, pp2)) := by
  obtain ⟨P, hc, he⟩ := h
  refine ⟨C11.still_accepted P, fun v hv => he.matches_parse hv, P.mc, PlainObj.pointerFree P, ?_⟩
  have hfresh : questionRaw0 { pp with cached := none } = .ok (some (questionOf P), _) := question_read (PlainObj.uncached P) rfl
  rcases hc with hc | hc
  · exact ⟨_, _, _, question_read P hc, hfresh⟩
  · refine ⟨questionOf P, pp, _, ?_, hfresh⟩
    simp [questionRaw0, hc]

theorem consistent_counts {pp : PP} (h : Consistent pp) :
    ∃ P : PlainObj pp, get16 (pp.packet.take 12) 6 = (P.lst .answer).length ∧ get16 (pp.packet.take 12) 8 = (P.lst .nameServers).length ∧
      get16 (pp.packet.take 12) 10 = (P.lst .additional).length ∧
      (pp.offsetAnswers = none ↔ P.lst .answer = []) ∧ (pp.offsetNameservers = none ↔ P.lst .nameServers = []) ∧
      (pp.offsetAdditional = none ↔ P.lst .additional = []) := by
  obtain ⟨P, _, _⟩ := h
  exact ⟨P, C11.emptied_absent P⟩

/-- what decompression / `recompute` leaves of any accepted packet is consistent -/
theorem after_decompression {pp0 : PP} {p : Bytes} {v : View} (F : Fresh pp0 p v) (hmp : pp0.maxPayload = v.maxPayload) :
    ∃ (L : C03.Layout p) (o : C05.Output p L) (v2 : View), uncompress p = .ok o.bytes ∧ parse o.bytes = .ok v2 ∧
      Consistent (pp0.rebased o.bytes v2) := by
  obtain ⟨L, o, v2, hu, h2, P, _⟩ := C11.plain_of_accepted F.hp pp0
  obtain ⟨e1, e2, e3, e4, e5⟩ := edns_fields_carried F hmp o h2
  exact ⟨L, o, v2, hu, h2, P, Or.inl rfl, ednsOK_rebased P h2 e1 e2 e3 e4 e5⟩

theorem consistent_of_same_question {pp pp' : PP} (P : PlainObj pp) (P' : PlainObj pp') (hq : P'.qls = P.qls) (hq4 : P'.q4 = P.q4)
    (hc : pp'.cached = pp.cached ∨ pp'.cached = none) (h : pp.cached = none ∨ pp.cached = some (questionOf P))
    (he : EdnsOK P') : Consistent pp' := by
  refine ⟨P', ?_, he⟩
  have e : questionOf P' = questionOf P := by unfold questionOf; rw [hq, hq4]
  rcases hc with hc | hc
  · rw [hc, e]; exact h
  · exact Or.inl hc

/-- `insert_rr` keeps the invariant -/
theorem insert_consistent {pp : PP} (P : PlainObj pp) (hc : pp.cached = none ∨ pp.cached = some (questionOf P)) (he : EdnsOK P)
    (sec : Section) (hs : sec.isRec = true) (rr : Bytes) (hpc : PieceOK sec rr (P.fout sec) (P.fout sec))
    (hsize : pp.packet.length + rr.length ≤ 8192) (hcount : (P.lst sec).length < 65535)
    (hqr : sec ≠ .additional → get16 P.hdr 2 / 32768 % 2 = 1) :
    ∃ pp', insertRR pp sec rr = .ok (pp', none) ∧ Consistent pp' := by
  obtain ⟨pp', P', hrun, f1, f2, hq, hq4, _, hfr⟩ := P.insert_at sec hs rr hpc hsize hcount hqr
  refine ⟨pp', hrun, consistent_of_same_question P P' hq hq4 (.inl (by rw [hfr])) hc ?_⟩
  by_cases hadd : sec = .additional
  · subst hadd
    rw [if_pos rfl] at hfr
    exact ednsOK_insert_additional P P' he rr (noopt_of_pieceOK hpc) f1 (P.start_congr P' .additional hq f2) hfr
  · -- a record put in before the additional section moves that section, and the OPT record with it
    rw [if_neg hadd] at hfr
    refine ednsOK_insert_before P P' he rr.length (f2 .additional (Ne.symm hadd)) ?_ hfr
    have hst := P.start_additional_moved P' hs hadd hq f2
    rw [f1, List.flatten_append, List.length_append, List.flatten_singleton] at hst
    omega

theorem insert_answer_consistent {pp : PP} (P : PlainObj pp) (hc : pp.cached = none ∨ pp.cached = some (questionOf P)) (he : EdnsOK P)
    (rr : Bytes) (hpc : PieceOK .answer rr P.o2 P.o2) (hsize : pp.packet.length + rr.length ≤ 8192) (hcount : P.A.length < 65535)
    (hqr : get16 P.hdr 2 / 32768 % 2 = 1) :
    ∃ pp', insertRR pp .answer rr = .ok (pp', none) ∧ Consistent pp' :=
  insert_consistent P hc he .answer rfl rr hpc hsize hcount (fun _ => hqr)

theorem insert_authority_consistent {pp : PP} (P : PlainObj pp) (hc : pp.cached = none ∨ pp.cached = some (questionOf P)) (he : EdnsOK P)
    (rr : Bytes) (hpc : PieceOK .nameServers rr P.o3 P.o3) (hsize : pp.packet.length + rr.length ≤ 8192) (hcount : P.N.length < 65535)
    (hqr : get16 P.hdr 2 / 32768 % 2 = 1) :
    ∃ pp', insertRR pp .nameServers rr = .ok (pp', none) ∧ Consistent pp' :=
  insert_consistent P hc he .nameServers rfl rr hpc hsize hcount (fun _ => hqr)

theorem insert_additional_consistent {pp : PP} (P : PlainObj pp) (hc : pp.cached = none ∨ pp.cached = some (questionOf P)) (he : EdnsOK P)
    (rr : Bytes) (hpc : PieceOK .additional rr P.o4 P.o4) (hsize : pp.packet.length + rr.length ≤ 8192) (hcount : P.R.length < 65535) :
    ∃ pp', insertRR pp .additional rr = .ok (pp', none) ∧ Consistent pp' :=
  insert_consistent P hc he .additional rfl rr hpc hsize hcount (fun h => absurd rfl h)

/-- `delete` keeps the invariant (and empties the cache; deleting the OPT record clears the summary) -/
theorem delete_consistent {pp : PP} (P : PlainObj pp) (he : EdnsOK P) (sec : Section) (hs : sec.isRec = true) {ps1 ps2 : List Bytes} {rc : Bytes}
    (hsplit : P.lst sec = ps1 ++ rc :: ps2) (c : Cursor) {ne : Nat} {ob oa : Bool}
    (hr : RRAtPos pp.packet sec ⟨P.start sec + ps1.flatten.length, ne, P.start sec + ps1.flatten.length + rc.length⟩ ob oa)
    (hoff : c.offset = some (P.start sec + ps1.flatten.length))
    (hnext : c.offsetNext = P.start sec + ps1.flatten.length + rc.length) (hne : c.nameEnd = ne) :
    ∃ st, deleteRR pp c = .ok st ∧ st.result = none ∧ Consistent st.pp ∧ st.cur.offset = none ∧ st.cur.sec = c.sec := by
  obtain ⟨pp', P', hdel, f1, f2, f3, _, _, g1, g2, hcache⟩ := P.delete_at sec hs hsplit c hr hoff hnext hne
  obtain ⟨hiff, hsec⟩ := isOpt_iff_type P sec hs hsplit hr
  refine ⟨_, hdel, rfl, ⟨P', Or.inl hcache, ?_⟩, rfl, rfl⟩
  by_cases h41 : get16 pp.packet ne = 41
  · obtain ⟨k1, k2, k3, k4, k5, k6⟩ := g2 h41
    have hadd := hsec h41
    subst hadd
    have f1' : P'.R = ps1 ++ ps2 := f1
    refine ednsOK_remove_opt P P' hsplit (hiff.2 h41) f1' ?_
    unfold PP.ednsInfo EdnsInfo.none
    rw [k1, k2, k3, k4, k5, k6]
  · obtain ⟨k1, k2, k3, k4, k5, k6⟩ := g1 h41
    have hn : isOptPiece rc = false := by
      cases h : isOptPiece rc with
      | false => rfl
      | true => exact absurd (hiff.1 h) h41
    refine ednsOK_remove P P' he sec hs hsplit hn f1 f2 f3 ?_
    apply ednsInfo_moved pp pp' _ _ k1 k2 k3 k4 k5
    rw [k6, hoff, map_if_optLt]
    congr 1
    funext x
    rw [shiftNat_neg]

/-- the TTL and address setters: nothing moves, so cache and EDNS summary stay right -/
theorem overwrite_consistent {pp pp' : PP} (P : PlainObj pp) (P' : PlainObj pp')
    (hc : pp.cached = none ∨ pp.cached = some (questionOf P)) (he : EdnsOK P) (sec : Section) (hs : sec.isRec = true)
    {ps1 ps2 : List Bytes} {rc : Bytes} (hsplit : P.lst sec = ps1 ++ rc :: ps2) {owner : List (List UInt8)} {f8 f8' rest rest' : Bytes}
    (hrc : rc = (encLabels owner ++ [0]) ++ f8 ++ rest) (hgo : GoodLabels owner) (hf8 : f8.length = 8) (ht : get16 f8 0 ≠ 41)
    (hf8' : f8'.length = 8) (ht' : get16 f8' 0 = get16 f8 0) (hrest : rest'.length = rest.length)
    (f1 : P'.lst sec = ps1 ++ ((encLabels owner ++ [0]) ++ f8' ++ rest') :: ps2) (f2 : ∀ s, s ≠ sec → P'.lst s = P.lst s)
    (hq : P'.qls = P.qls) (hq4 : P'.q4 = P.q4) (hfr : pp' = { pp with packet := pp'.packet }) :
    Consistent pp' ∧ (pp'.cached = none ∨ pp'.cached = some (questionOf P')) ∧ EdnsOK P' := by
  have hn : isOptPiece rc = false := hrc ▸ noopt_of_type owner f8 rest hgo hf8 ht
  have hn' : isOptPiece ((encLabels owner ++ [0]) ++ f8' ++ rest') = false := noopt_of_type owner f8' rest' hgo hf8' (by rw [ht']; exact ht)
  have hlen : ((encLabels owner ++ [0]) ++ f8' ++ rest').length = rc.length := by
    simp only [hrc, List.length_append, hf8, hf8', hrest]
  have hE : EdnsOK P' := by
    refine ednsOK_replace P P' he sec hs hsplit hn hn' f1 f2 hq ?_
    rw [hlen, moved_id (fun x _ => by rw [Nat.add_sub_cancel]; exact ite_self x), hfr]
    rfl
  have hcons := consistent_of_same_question P P' hq hq4 (Or.inl (by rw [hfr])) hc hE
  have e : questionOf P' = questionOf P := by unfold questionOf; rw [hq, hq4]
  exact ⟨hcons, by rw [e, hfr]; exact hc, hE⟩

/-- `set_rr_ttl` keeps the invariant -/
theorem set_ttl_consistent {pp : PP} (P : PlainObj pp) (hc : pp.cached = none ∨ pp.cached = some (questionOf P)) (he : EdnsOK P)
    (sec : Section) (hs : sec.isRec = true) {ps1 ps2 : List Bytes} {rc : Bytes}
    (hsplit : P.lst sec = ps1 ++ rc :: ps2) (c : Cursor) {ne : Nat} {ob oa : Bool}
    (hr : RRAtPos pp.packet sec ⟨P.start sec + ps1.flatten.length, ne, P.start sec + ps1.flatten.length + rc.length⟩ ob oa)
    (hoff : c.offset = some (P.start sec + ps1.flatten.length)) (hne : c.nameEnd = ne) (h41 : get16 pp.packet ne ≠ 41) (ttl : Nat) :
    ∃ (owner : List (List UInt8)) (f8 rd : Bytes) (pp' : PP) (P' : PlainObj pp'),
      rc = (encLabels owner ++ [0]) ++ f8 ++ put16 rd.length ++ rd ∧ GoodLabels owner ∧ f8.length = 8 ∧
      setRrTtl pp c ttl = .ok pp' ∧ Consistent pp' ∧
      (pp'.cached = none ∨ pp'.cached = some (questionOf P')) ∧ EdnsOK P' ∧
      P'.lst sec = ps1 ++ ((encLabels owner ++ [0]) ++ (f8.take 4 ++ put32 ttl) ++ put16 rd.length ++ rd) :: ps2 ∧
      (∀ s, s ≠ sec → P'.lst s = P.lst s) ∧ P'.qls = P.qls := by
  obtain ⟨owner, f8, rd, pp', P', hrc, hf8, hrun, f1, f2, hq, hq4, _, hfr, hgo, ht⟩ := P.set_ttl sec hs hsplit c hr hoff hne h41 ttl
  have hf8' : (f8.take 4 ++ put32 ttl).length = 8 := by rw [List.length_append, List.length_take, put32_length, hf8]; rfl
  have hty' : get16 (f8.take 4 ++ put32 ttl) 0 = get16 f8 0 := by
    rw [get16_append_left (by rw [List.length_take, hf8]; decide), get16_take (by omega)]
  obtain ⟨hcons, hc', hE⟩ := overwrite_consistent P P' hc he sec hs hsplit (rest := put16 rd.length ++ rd) (rest' := put16 rd.length ++ rd)
    (by rw [hrc, List.append_assoc _ (put16 _) rd]) hgo hf8 ht hf8' hty' rfl (by rw [f1, List.append_assoc _ (put16 _) rd]) f2 hq hq4 hfr
  exact ⟨owner, f8, rd, pp', P', hrc, hgo, hf8, hrun, hcons, hc', hE, f1, f2, hq⟩

/-- `set_rr_ip` keeps the invariant -/
theorem set_ip_consistent {pp : PP} (P : PlainObj pp) (hc : pp.cached = none ∨ pp.cached = some (questionOf P)) (he : EdnsOK P)
    (sec : Section) (hs : sec.isRec = true) {ps1 ps2 : List Bytes} {rc : Bytes}
    (hsplit : P.lst sec = ps1 ++ rc :: ps2) (c : Cursor) {ne : Nat} {ob oa : Bool}
    (hr : RRAtPos pp.packet sec ⟨P.start sec + ps1.flatten.length, ne, P.start sec + ps1.flatten.length + rc.length⟩ ob oa)
    (hoff : c.offset = some (P.start sec + ps1.flatten.length)) (hne : c.nameEnd = ne) (ip : Bytes)
    (hfam : (get16 pp.packet ne = 1 ∧ ip.length = 4) ∨ (get16 pp.packet ne = 28 ∧ ip.length = 16)) :
    ∃ (owner : List (List UInt8)) (f8 rd : Bytes) (pp' : PP) (P' : PlainObj pp'),
      rc = (encLabels owner ++ [0]) ++ f8 ++ put16 rd.length ++ rd ∧ GoodLabels owner ∧ f8.length = 8 ∧ rd.length = ip.length ∧
      setRrIp pp c ip = .ok (pp', none) ∧ Consistent pp' ∧
      (pp'.cached = none ∨ pp'.cached = some (questionOf P')) ∧ EdnsOK P' ∧
      P'.lst sec = ps1 ++ ((encLabels owner ++ [0]) ++ f8 ++ put16 rd.length ++ ip) :: ps2 ∧
      (∀ s, s ≠ sec → P'.lst s = P.lst s) ∧ P'.qls = P.qls := by
  obtain ⟨owner, f8, rd, pp', P', hrc, hf8, hrdl, hrun, f1, f2, hq, hq4, _, hfr, hgo, ht⟩ := P.set_ip sec hs hsplit c hr hoff hne ip hfam
  obtain ⟨hcons, hc', hE⟩ := overwrite_consistent P P' hc he sec hs hsplit (rest := put16 rd.length ++ rd) (rest' := put16 rd.length ++ ip)
    (by rw [hrc, List.append_assoc _ (put16 _) rd]) hgo hf8 ht hf8 rfl
    (by rw [List.length_append, List.length_append, hrdl]) (by rw [f1, List.append_assoc _ (put16 _) ip]) f2 hq hq4 hfr
  exact ⟨owner, f8, rd, pp', P', hrc, hgo, hf8, hrdl, hrun, hcons, hc', hE, f1, f2, hq⟩

/-- `set_raw_name` keeps the invariant; the cursor still designates the record, and advancing it yields the record
that followed (or the end of the section) -/
theorem set_name_consistent {pp : PP} (P : PlainObj pp) (he : EdnsOK P) (sec : Section) (hs : sec.isRec = true) {ps1 ps2 : List Bytes} {rc : Bytes}
    (hsplit : P.lst sec = ps1 ++ rc :: ps2) (c : Cursor) {ne : Nat} {ob oa : Bool}
    (hr : RRAtPos pp.packet sec ⟨P.start sec + ps1.flatten.length, ne, P.start sec + ps1.flatten.length + rc.length⟩ ob oa)
    (hoff : c.offset = some (P.start sec + ps1.flatten.length))
    (hnext : c.offsetNext = P.start sec + ps1.flatten.length + rc.length) (hne : c.nameEnd = ne) (hsec : c.sec = sec)
    (hleft : c.rrsLeft = ps2.length)
    (h41 : get16 pp.packet ne ≠ 41) (owner' : List (List UInt8)) (hgo' : GoodLabels owner')
    (hsize : ne - (P.start sec + ps1.flatten.length) < labSum owner' + 1 →
      pp.packet.length + (labSum owner' + 1) - (ne - (P.start sec + ps1.flatten.length)) ≤ 65535) :
    ∃ (pp' : PP) (c' : Cursor) (P' : PlainObj pp') (rc' : Bytes),
      setRawName pp c (encLabels owner' ++ [0]) = mOk pp' c' ∧ Consistent pp' ∧
      (pp'.cached = none ∨ pp'.cached = some (questionOf P')) ∧ EdnsOK P' ∧ (∀ s, s ≠ sec → P'.lst s = P.lst s) ∧ P'.qls = P.qls ∧
      (∃ rest, rc' = (encLabels owner' ++ [0]) ++ rest) ∧
      c'.nameEnd = P'.start sec + ps1.flatten.length + labSum owner' + 1 ∧ c'.sec = c.sec ∧ c'.rrsLeft = c.rrsLeft ∧
      P'.lst sec = ps1 ++ rc' :: ps2 ∧ c'.offset = c.offset ∧ c'.offsetNext = P'.start sec + ps1.flatten.length + rc'.length ∧
      (match ps2 with
       | [] => nextIncludingOpt pp' c' = .ok none
       | nx :: _ => ∃ c2, nextIncludingOpt pp' c' = .ok (some c2) ∧
           c2.offset = some (P'.start sec + (ps1 ++ [rc']).flatten.length) ∧ recBytes pp' c2 = nx) := by
  obtain ⟨owner, f8, rd, pp', P', hrc, hrun, f1, f2, f3, f4, f5, hcache, k1, k2, k3, k4, k5, k6, hgo, hf8, hlt, ht⟩ :=
    P.set_name sec hs hsplit c hr hoff hnext hne hsec h41 owner' hgo' hsize
  have hst : P'.start sec = P.start sec := P.start_congr P' sec f3 f2
  have hedns : EdnsOK P' := by
    have hn : isOptPiece rc = false := by
      rw [hrc]
      have := noopt_of_type owner f8 (put16 rd.length ++ rd) hgo hf8 ht
      simpa using this
    have hn' : isOptPiece ((encLabels owner' ++ [0]) ++ f8 ++ put16 rd.length ++ rd) = false := by
      have := noopt_of_type owner' f8 (put16 rd.length ++ rd) hgo' hf8 ht
      simpa using this
    refine ednsOK_replace P P' he sec hs hsplit hn hn' f1 f2 f3 ?_
    apply ednsInfo_moved pp pp' _ _ k1 k2 k3 k4 k5
    rw [k6, hoff, map_if_optLt]
  refine ⟨pp', _, P', _, hrun, ⟨P', Or.inl hcache, hedns⟩, Or.inl hcache, hedns, f2, f3, ⟨f8 ++ put16 rd.length ++ rd, by simp⟩,
    by rw [hst]; rfl, rfl, rfl, f1, hoff.symm, by rw [hst]; rfl, ?_⟩
  have hcur : CurAt P' sec (ps1.length + 1)
      (c.movedTo (P.start sec + ps1.flatten.length) (P.start sec + ps1.flatten.length + labSum owner' + 1)
        (P.start sec + ps1.flatten.length + ((encLabels owner' ++ [0]) ++ f8 ++ put16 rd.length ++ rd).length)) := by
    refine ⟨hsec, Or.inr ⟨_, rfl, ?_, ?_, ?_⟩⟩
    · show _ + _ = _
      rw [f1, take_mid, hst, List.flatten_append, List.flatten_singleton, List.length_append (as := ps1.flatten), Nat.add_assoc]
    · show c.rrsLeft = _
      rw [f1, hleft, List.length_append, List.length_cons, Nat.add_sub_add_left, Nat.add_sub_cancel]
    · rw [f1, List.length_append, List.length_cons]
      exact Nat.add_le_add_left (Nat.succ_le_succ (Nat.zero_le _)) _
  cases ps2 with
  | nil =>
    simp only
    apply next_none P' sec hs _ _ hcur
    rw [f1]; simp
  | cons nx rest =>
    simp only
    have hj : ps1.length + 1 < (P'.lst sec).length := by rw [f1]; simp
    obtain ⟨c2, hnx, hon⟩ := next_some P' sec hs _ _ hcur hj
    have ⟨_, _, _, _, hoff2, _⟩ := hon
    refine ⟨c2, hnx, ?_, ?_⟩
    · rw [hoff2, f1, take_mid]
    · rw [hon.recBytes hs hj]
      simp [f1]

/-- header setters keep the invariant while the response bit allows the records present -/
theorem header_consistent {pp : PP} (P : PlainObj pp) (hc : pp.cached = none ∨ pp.cached = some (questionOf P)) (he : EdnsOK P) (p' : Bytes)
    (hs : C12.sameExcept pp.packet p' 0 4) (hqr : get16 p' 2 / 32768 % 2 = 0 → P.A = [] ∧ P.N = []) :
    Consistent { pp with packet := p' } := by
  obtain ⟨P', hA, hN, hR, hq, hq4, _⟩ := P.header_set p' hs hqr
  have hst : P'.start .additional = P.start .additional := by simp only [start_additional, hq, hA, hN]
  exact consistent_of_same_question P P' hq hq4 (Or.inl rfl) hc (ednsOK_same P P' he hR hst rfl)

/-- a successful object-level rename leaves exactly what a fresh parse of the new bytes gives (empty cache; the flag
set, as after `parse`) -/
theorem rename_fresh (pp pp' : PP) (target source : Bytes) (sfx : Bool)
    (h : pp.renameWithRawNames target source sfx = .ok (pp', none)) :
    ∃ v, Fresh pp' pp'.packet v ∧ pp'.offsetEdns = v.offsetEdns ∧ pp'.cached = none := by
  obtain ⟨_, he, _⟩ | ⟨_, hv⟩ := C10.rename_inv h
  · cases he
  · exact hv

/-- `recompute` on an object that still has its parse-time flag leaves a consistent object -/
theorem recompute_consistent {pp : PP} {p : Bytes} {v : View} (F : Fresh pp p v) (hmp : pp.maxPayload = v.maxPayload) :
    ∃ pp', pp.recompute = .ok (pp', none) ∧ Consistent pp' := by
  obtain ⟨L, o, _⟩ := C05.decompress_ok F.hp
  obtain ⟨v2, h2, _, hrec⟩ := recompute_of_fresh F o
  obtain ⟨P, _⟩ := plainObj_of_output F.hp o h2 pp
  obtain ⟨e1, e2, e3, e4, e5⟩ := edns_fields_carried F hmp o h2
  exact ⟨_, hrec, P, Or.inl rfl, ednsOK_rebased P h2 e1 e2 e3 e4 e5⟩

theorem recompute_plain (pp : PP) (h : pp.maybeCompressed = false) : pp.recompute = .ok (pp, none) := by
  unfold PP.recompute
  simp [h]

/-- in-place decompression through an iterator on an object that still has its flag leaves a consistent object -/
theorem iter_uncompress_consistent {pp : PP} {p : Bytes} {v : View} (F : Fresh pp p v) (hmp : pp.maxPayload = v.maxPayload)
    (L : C03.Layout p) (o : C05.Output p L)
    (sec : Section) (hs : sec.isRec = true) {l1 l2 : List RecPos} {r : RecPos} {ps1 ps2 : List Bytes} {pc : Bytes}
    (hl : L.recs sec = l1 ++ r :: l2) (hp : o.pieces sec = ps1 ++ pc :: ps2) (hlen : l1.length = ps1.length)
    (c : Cursor) (hsec : c.sec = sec) (hoff : c.offset = some r.off) :
    ∃ pp' c', iterUncompress pp c = mOk pp' c' ∧ Consistent pp' ∧ pp'.packet = o.bytes := by
  obtain ⟨v2, P, ne, h2, _, _, _, hrun⟩ := iterUncompress_fresh F L o sec hs hl hp hlen c hsec hoff
  obtain ⟨e1, e2, e3, e4, e5⟩ := edns_fields_carried F hmp o h2
  exact ⟨_, _, hrun, ⟨P, Or.inl rfl, ednsOK_rebased P h2 e1 e2 e3 e4 e5⟩, rfl⟩

/-- the decompress-first step of `set_raw_name` / `delete` leaves a consistent object -/
theorem first_touch_consistent {pp : PP} {p : Bytes} {v : View} (F : Fresh pp p v) (hmp : pp.maxPayload = v.maxPayload)
    (L : C03.Layout p) (o : C05.Output p L)
    (sec : Section) (hs : sec.isRec = true) {l1 l2 : List RecPos} {r : RecPos} {ps1 ps2 : List Bytes} {pc : Bytes}
    (hl : L.recs sec = l1 ++ r :: l2) (hp : o.pieces sec = ps1 ++ pc :: ps2) (hlen : l1.length = ps1.length)
    (c : Cursor) (hsec : c.sec = sec) (hoff : c.offset = some r.off) :
    ∃ pp' c', uncompressAt pp c = mOk pp' c' ∧ Consistent pp' ∧ pp'.packet = o.bytes := by
  obtain ⟨v2, P, ne, ob, oa, h2, _, _, _, _, _, _, hrun⟩ := uncompressAt_fresh F L o sec hs hl hp hlen c hsec hoff
  obtain ⟨e1, e2, e3, e4, e5⟩ := edns_fields_carried F hmp o h2
  exact ⟨_, _, hrun, ⟨P, Or.inl rfl, ednsOK_rebased P h2 e1 e2 e3 e4 e5⟩, rfl⟩

end Dns.C08
