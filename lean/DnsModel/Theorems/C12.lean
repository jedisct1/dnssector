/-
  C12 — Header setters touch only their own bits; getters return what was set.
  Fields are read off the 16-bit flag word by position (RFC 1035 §4.1.1), with div/mod and
  `Nat.testBit`, not with the masks the code uses:
    QR = bit 15, opcode = bits 14..11, AA TC RD RA Z AD CD = bits 10..4, rcode = bits 3..0.
-/
import DnsModel.Lemmas.Header
import DnsModel.Tie.Header
namespace Dns.C12
open Dns

/-- the flag word of a header -/
def word (p : Bytes) : Nat := get16 p DNS_FLAGS_OFFSET

def opcodeOf (w : Nat) : Nat := w / 2 ^ 11 % 2 ^ 4

def rcodeOf (w : Nat) : Nat := w % 2 ^ 4

/-- QR, AA, TC, RD, RA, Z, AD, CD -/
def isFlagBit (i : Nat) : Prop := i = 15 ∨ (4 ≤ i ∧ i ≤ 10)

theorem flagBit_iff : ∀ i, i < 16 → (flagBit i = true ↔ isFlagBit i) := by
  unfold flagBit isFlagBit
  decide +kernel

/-- `p'` has the length of `p` and differs from it at most in the bytes `lo ≤ j < hi` -/
def sameExcept (p p' : Bytes) (lo hi : Nat) : Prop :=
  p'.length = p.length ∧ ∀ j, (j < lo ∨ hi ≤ j) → byteAt p' j = byteAt p j

theorem word_lt (p : Bytes) : word p < 65536 := get16_lt p _

theorem be16_flags {p : Bytes} (hp : 12 ≤ p.length) : be16 p DNS_FLAGS_OFFSET = .ok (word p) :=
  be16_ok (by simp [DNS_FLAGS_OFFSET]; omega)

private theorem store_word {p : Bytes} (hp : 12 ≤ p.length) (v : Nat) (hv : v < 65536) :
    ∃ p', writeAt p DNS_FLAGS_OFFSET (put16 v) = .ok p' ∧ sameExcept p p' 2 4 ∧ word p' = v := by
  have hfit : DNS_FLAGS_OFFSET + (put16 v).length ≤ p.length := by simp [DNS_FLAGS_OFFSET, put16]; omega
  refine ⟨_, writeAt_ok hfit, ⟨writeAt_length (writeAt_ok hfit), ?_⟩, get16_writeAt_put16 (writeAt_ok hfit) hv⟩
  intro j hj
  exact byteAt_writeAt_put16_other (writeAt_ok hfit) (by simp [DNS_FLAGS_OFFSET]; omega)

/-- C12, `set_flags`: only bytes 2–3 change (so id and counts are untouched); opcode and rcode are kept; each of the
eight flag bits becomes the argument's bit; and the upper half of the argument is ignored. -/
theorem set_flags_frame (p : Bytes) (a : Nat) (hp : 12 ≤ p.length) :
    ∃ p', hSetFlags p a = .ok p' ∧ sameExcept p p' 2 4 ∧
      opcodeOf (word p') = opcodeOf (word p) ∧ rcodeOf (word p') = rcodeOf (word p) ∧
      (∀ i, isFlagBit i → (word p').testBit i = a.testBit i) ∧
      hSetFlags p (a % 65536) = hSetFlags p a := by
  have hset : ∀ b, hSetFlags p b = writeAt p DNS_FLAGS_OFFSET (put16 (setFlagsW (word p) b)) := by
    intro b; simp [hSetFlags, be16_flags hp, setFlagsW]
  obtain ⟨p', hw, hsame, hword⟩ := store_word hp (setFlagsW (word p) a) (setFlagsW_lt _ _ (word_lt p))
  have keep (i : Nat) (hi : i < 16) (hn : ¬ isFlagBit i) : (word p').testBit i = (word p).testBit i := by
    rw [hword, setFlagsW_bits _ _ _ hi, if_neg (fun h => hn ((flagBit_iff i hi).1 h))]
  refine ⟨p', by rw [hset, hw], hsame, ?_, ?_, ?_, ?_⟩
  · exact div_mod_eq_of_bits fun i hi => keep _ (by omega) (by unfold isFlagBit; omega)
  · exact mod_eq_of_bits fun i hi => keep _ (by omega) (by unfold isFlagBit; omega)
  · intro i hi
    have hi16 : i < 16 := by unfold isFlagBit at hi; omega
    rw [hword, setFlagsW_bits _ _ _ hi16, if_pos ((flagBit_iff i hi16).2 hi)]
  · rw [hset, hset]
    have : setFlagsW (word p) (a % 65536) = setFlagsW (word p) a := by
      unfold setFlagsW
      have e : ∀ x : Nat, x &&& 0xffff = x % 65536 := fun x => Nat.and_two_pow_sub_one_eq_mod x 16
      rw [e, e, Nat.mod_mod]
    rw [this]

/-- C12, `set_response`: only the QR bit changes, and it becomes the argument. -/
theorem set_response_frame (p : Bytes) (b : Bool) (hp : 12 ≤ p.length) :
    ∃ p', hSetResponse p b = .ok p' ∧ sameExcept p p' 2 4 ∧
      (word p').testBit 15 = b ∧ ∀ i, i < 15 → (word p').testBit i = (word p).testBit i := by
  have hset : hSetResponse p b = writeAt p DNS_FLAGS_OFFSET (put16 (setResponseW (word p) b)) := by
    simp [hSetResponse, be16_flags hp, setResponseW]
  obtain ⟨p', hw, hsame, hword⟩ := store_word hp (setResponseW (word p) b) (setResponseW_lt _ _ (word_lt p))
  refine ⟨p', by rw [hset, hw], hsame, ?_, ?_⟩
  · rw [hword, setResponseW_bits _ _ _ (by decide)]; simp
  · intro i hi
    rw [hword, setResponseW_bits _ _ _ (by omega)]
    have : i ≠ 15 := by omega
    simp [this]

/-- C12, `set_tid`: only bytes 0–1 change; the id read back is the 16-bit argument. -/
theorem set_tid_frame (p : Bytes) (tid : Nat) (hp : 12 ≤ p.length) :
    ∃ p', hSetTid p (tid % 65536) = .ok p' ∧ sameExcept p p' 0 2 ∧
      hTid p' = .ok (tid % 65536) ∧ word p' = word p := by
  have hfit : DNS_TID_OFFSET + (put16 (tid % 65536)).length ≤ p.length := by simp [DNS_TID_OFFSET, put16]; omega
  have hw := writeAt_ok hfit
  refine ⟨_, hw, ⟨writeAt_length hw, ?_⟩, ?_, ?_⟩
  · intro j hj
    exact byteAt_writeAt_put16_other hw (by simp [DNS_TID_OFFSET]; omega)
  · have hl := writeAt_length hw
    have := be16_ok (i := DNS_TID_OFFSET)
      (p := List.take DNS_TID_OFFSET p ++ put16 (tid % 65536) ++ List.drop (DNS_TID_OFFSET + (put16 (tid % 65536)).length) p)
      (by rw [hl]; simp [DNS_TID_OFFSET]; omega)
    unfold hTid
    rw [this, get16_writeAt_put16 hw (Nat.mod_lt _ (by decide))]
  · exact get16_writeAt_other hw (by simp [DNS_TID_OFFSET, DNS_FLAGS_OFFSET])

private theorem store_byte {p : Bytes} {k : Nat} (hk : k < p.length) (v : Nat) (hv : v < 256) :
    ∃ p', writeAt p k [UInt8.ofNat v] = .ok p' ∧ p'.length = p.length ∧
      (∀ j, j ≠ k → byteAt p' j = byteAt p j) ∧ byteAt p' k = some v := by
  have hfit : k + [UInt8.ofNat v].length ≤ p.length := by simp; omega
  have hw := writeAt_ok hfit
  refine ⟨_, hw, writeAt_length hw, ?_, ?_⟩
  · exact fun j hj => byteAt_writeAt_other hw (by show j < k ∨ k + 1 ≤ j; omega)
  · rw [byteAt_writeAt hw k]
    simp [byteAt]
    omega

theorem word_of_bytes {p : Bytes} {hi lo : Nat} (h2 : byteAt p 2 = some hi) (h3 : byteAt p 3 = some lo) :
    word p = hi * 256 + lo := get16_eq_of_bytes h2 h3

/-- C12, `set_rcode`: only byte 3 changes; the rcode becomes the argument mod 16, the other twelve bits stay. -/
theorem set_rcode_frame (p : Bytes) (rc : Nat) (hp : 12 ≤ p.length) :
    ∃ p', hSetRcode p rc = .ok p' ∧ sameExcept p p' 3 4 ∧
      rcodeOf (word p') = rc % 16 ∧ ∀ i, 4 ≤ i → (word p').testBit i = (word p).testBit i := by
  obtain ⟨hi, hhi, _⟩ := byteAt_of_lt (p := p) (i := 2) (by omega)
  obtain ⟨lo, hlo, hlolt⟩ := byteAt_of_lt (p := p) (i := 3) (by omega)
  have hset : hSetRcode p rc = writeAt p 3 [UInt8.ofNat (setRcodeB lo rc)] := by
    simp [hSetRcode, DNS_FLAGS_OFFSET, idx, hlo, setRcodeB]
  obtain ⟨p', hw, hlen, hoth, hnew⟩ := store_byte (p := p) (k := 3) (by omega) _ (setRcodeB_lt lo rc hlolt)
  have hwp' := word_of_bytes (hoth 2 (by decide) ▸ hhi) hnew
  have bit (i : Nat) : (word p').testBit i = if i < 4 then rc.testBit i else (word p).testBit i := by
    rw [hwp', word_of_bytes hhi hlo, testBit_word _ _ _ (setRcodeB_lt lo rc hlolt), testBit_word _ _ _ hlolt,
      setRcodeB_bits _ _ _ hlolt]
    by_cases h4 : i < 4
    · simp [h4, (by omega : i < 8)]
    · simp [h4]
  refine ⟨p', by rw [hset, hw], ⟨hlen, fun j hj => hoth j (by omega)⟩, ?_, fun i hi4 => ?_⟩
  · exact mod_eq_of_bits fun i hi4 => by rw [bit, if_pos hi4]
  · rw [bit, if_neg (by omega)]

/-- C12, `set_opcode`: only byte 2 changes; the opcode becomes the argument mod 16, the other twelve bits stay. -/
theorem set_opcode_frame (p : Bytes) (op : Nat) (hp : 12 ≤ p.length) :
    ∃ p', hSetOpcode p op = .ok p' ∧ sameExcept p p' 2 3 ∧
      opcodeOf (word p') = op % 16 ∧ ∀ i, (i < 11 ∨ 15 ≤ i) → (word p').testBit i = (word p).testBit i := by
  obtain ⟨hi, hhi, hhilt⟩ := byteAt_of_lt (p := p) (i := 2) (by omega)
  obtain ⟨lo, hlo, hlolt⟩ := byteAt_of_lt (p := p) (i := 3) (by omega)
  have hset : hSetOpcode p op = writeAt p 2 [UInt8.ofNat (setOpcodeB hi op)] := by
    simp [hSetOpcode, DNS_FLAGS_OFFSET, idx, hhi, setOpcodeB]
  obtain ⟨p', hw, hlen, hoth, hnew⟩ := store_byte (p := p) (k := 2) (by omega) _ (setOpcodeB_lt hi op hhilt)
  have hwp' := word_of_bytes hnew (hoth 3 (by decide) ▸ hlo)
  have bit (i : Nat) :
      (word p').testBit i = if 11 ≤ i ∧ i < 15 then op.testBit (i - 11) else (word p).testBit i := by
    rw [hwp', word_of_bytes hhi hlo, testBit_word _ _ _ hlolt, testBit_word _ _ _ hlolt, setOpcodeB_bits _ _ _ hhilt]
    by_cases h : 11 ≤ i ∧ i < 15
    · rw [if_neg (by omega), if_pos (by omega), if_pos h, (by omega : i - 8 - 3 = i - 11)]
    · rw [if_neg h]
      by_cases h8 : i < 8
      · rw [if_pos h8, if_pos h8]
      · rw [if_neg h8, if_neg h8, if_neg (by omega)]
  refine ⟨p', by rw [hset, hw], ⟨hlen, fun j hj => hoth j (by omega)⟩, ?_, fun i hr => ?_⟩
  · exact field_eq_of_bits (n := 4) fun i hi4 => by rw [bit, if_pos (by omega), Nat.add_sub_cancel]
  · rw [bit, if_neg (by omega)]

/-- C12, getters: each returns the field as stored: id, opcode, rcode, QR, and the flag word with opcode and rcode
masked out and the EDNS flags in the upper half. -/
theorem getters (p : Bytes) (ext : Option Nat) (hp : 12 ≤ p.length) :
    hTid p = .ok (get16 p 0) ∧ hOpcode p = .ok (opcodeOf (word p)) ∧ hRcode p = .ok (rcodeOf (word p)) ∧
      hIsResponse p ext = .ok ((word p).testBit 15) ∧
      ∃ f, hFlags p ext = .ok f ∧ (∀ i, i < 16 → f.testBit i = (flagBit i && (word p).testBit i)) ∧
        (∀ i, f.testBit (i + 16) = (ext.getD 0).testBit i) := by
  obtain ⟨hi, hhi, hhilt⟩ := byteAt_of_lt (p := p) (i := 2) (by omega)
  obtain ⟨lo, hlo, hlolt⟩ := byteAt_of_lt (p := p) (i := 3) (by omega)
  have hwp := word_of_bytes hhi hlo
  have hflags : hFlags p ext = .ok (((ext.getD 0) <<< 16) ||| (word p &&& 0x87f0)) := by
    simp only [hFlags, be16_flags hp, Res.bind_ok, Res.pure_eq, Nat.and_assoc]
    rfl
  have hmask (i : Nat) : (word p &&& 0x87f0).testBit i = (flagBit i && (word p).testBit i) := by
    rw [Nat.testBit_and, Bool.and_comm]; rfl
  have hlow (i : Nat) (hi16 : i < 16) :
      (((ext.getD 0) <<< 16) ||| (word p &&& 0x87f0)).testBit i = (flagBit i && (word p).testBit i) := by
    rw [Nat.testBit_or, Nat.testBit_shiftLeft, hmask, decide_eq_false (Nat.not_le_of_lt hi16)]
    rfl
  refine ⟨be16_ok (p := p) (i := 0) (by omega), ?_, ?_, ?_, _, hflags, hlow, fun i => ?_⟩
  · -- opcode: (hi & 0x78) >> 3
    simp only [hOpcode, DNS_FLAGS_OFFSET, idx, hhi, Res.bind_ok, Res.pure_eq]
    congr 1
    rw [hwp, show (0x78 : Nat) = (2 ^ 4 - 1) <<< 3 from rfl, and_shl_shr, Nat.and_two_pow_sub_one_eq_mod,
      Nat.shiftRight_eq_div_pow, opcodeOf, word_div_2048 hi lo hlolt]
  · -- rcode: lo & 0x0f
    simp only [hRcode, DNS_FLAGS_OFFSET, idx, hlo, Res.bind_ok, Res.pure_eq]
    congr 1
    rw [hwp, show (0x0f : Nat) = 2 ^ 4 - 1 from rfl, Nat.and_two_pow_sub_one_eq_mod, rcodeOf, word_mod_16]
  · simp only [hIsResponse, hflags, Res.bind_ok, Res.pure_eq]
    congr 1
    rw [show DNS_FLAG_QR = 2 ^ 15 from rfl, and_two_pow_beq, hlow 15 (by decide)]
    rfl
  · have hz : (word p &&& 0x87f0).testBit (i + 16) = false :=
      Nat.testBit_lt_two_pow (Nat.lt_of_lt_of_le (Nat.lt_of_le_of_lt Nat.and_le_right (by decide : 0x87f0 < 2 ^ 16))
        (Nat.pow_le_pow_right Nat.zero_lt_two (Nat.le_add_left 16 i)))
    rw [Nat.testBit_or, Nat.testBit_shiftLeft, hz, Bool.or_false, Nat.add_sub_cancel,
      decide_eq_true (Nat.le_add_left 16 i), Bool.true_and]

/- non-vacuity: with `set_flags` as it is, argument 0 keeps rcode 1 of word 0x0001 and clears the AA bit of word 0x0400
(defect D20 of DESIGN.md did the opposite) -/
example : hSetFlags [0x12,0x34, 0x00,0x01, 0,1,0,0,0,0,0,0] 0 = .ok [0x12,0x34, 0x00,0x01, 0,1,0,0,0,0,0,0] := by decide
example : hSetFlags [0x12,0x34, 0x04,0x00, 0,1,0,0,0,0,0,0] 0 = .ok [0x12,0x34, 0x00,0x00, 0,1,0,0,0,0,0,0] := by decide
example : hSetOpcode [0,0, 0xff,0xff, 0,1,0,0,0,0,0,0] 2 = .ok [0,0, 0x97,0xff, 0,1,0,0,0,0,0,0] := by decide

/- The same statements about `Tr.Header.*` (Generated/TrHeader.lean), which rs2lean.py writes from
/repo/src/parsed_packet.rs on every run; `Tie/Header.lean` proves each translated function equal to the model
function used above. -/

theorem source_set_flags_frame (p : Bytes) (a : Nat) (hp : 12 ≤ p.length) :
    ∃ p', Tr.Header.set_flags p a = .ok p' ∧ sameExcept p p' 2 4 ∧
      opcodeOf (word p') = opcodeOf (word p) ∧ rcodeOf (word p') = rcodeOf (word p) ∧
      (∀ i, isFlagBit i → (word p').testBit i = a.testBit i) ∧
      Tr.Header.set_flags p (a % 65536) = Tr.Header.set_flags p a := by
  simp only [Tie.set_flags_eq]
  exact set_flags_frame p a hp

theorem source_set_response_frame (p : Bytes) (b : Bool) (hp : 12 ≤ p.length) :
    ∃ p', Tr.Header.set_response p b = .ok p' ∧ sameExcept p p' 2 4 ∧
      (word p').testBit 15 = b ∧ ∀ i, i < 15 → (word p').testBit i = (word p).testBit i := by
  simp only [Tie.set_response_eq]
  exact set_response_frame p b hp

theorem source_set_tid_frame (p : Bytes) (tid : Nat) (hp : 12 ≤ p.length) :
    ∃ p', Tr.Header.set_tid p (tid % 65536) = .ok p' ∧ sameExcept p p' 0 2 ∧
      Tr.Header.tid p' = .ok (tid % 65536) ∧ word p' = word p := by
  simp only [Tie.set_tid_eq, Tie.tid_eq]
  exact set_tid_frame p tid hp

theorem source_set_rcode_frame (p : Bytes) (rc : Nat) (hp : 12 ≤ p.length) :
    ∃ p', Tr.Header.set_rcode p rc = .ok p' ∧ sameExcept p p' 3 4 ∧
      rcodeOf (word p') = rc % 16 ∧ ∀ i, 4 ≤ i → (word p').testBit i = (word p).testBit i := by
  simp only [Tie.set_rcode_eq]
  exact set_rcode_frame p rc hp

theorem source_set_opcode_frame (p : Bytes) (op : Nat) (hp : 12 ≤ p.length) :
    ∃ p', Tr.Header.set_opcode p op = .ok p' ∧ sameExcept p p' 2 3 ∧
      opcodeOf (word p') = op % 16 ∧ ∀ i, (i < 11 ∨ 15 ≤ i) → (word p').testBit i = (word p).testBit i := by
  simp only [Tie.set_opcode_eq]
  exact set_opcode_frame p op hp

theorem source_getters (p : Bytes) (ext : Option Nat) (hp : 12 ≤ p.length) (hext : Tie.ExtOK ext) :
    Tr.Header.tid p = .ok (get16 p 0) ∧ Tr.Header.opcode p = .ok (opcodeOf (word p)) ∧ Tr.Header.rcode p = .ok (rcodeOf (word p)) ∧
      Tr.Header.is_response p ext = .ok ((word p).testBit 15) ∧
      ∃ f, Tr.Header.flags p ext = .ok f ∧ (∀ i, i < 16 → f.testBit i = (flagBit i && (word p).testBit i)) ∧
        (∀ i, f.testBit (i + 16) = (ext.getD 0).testBit i) := by
  simp only [Tie.tid_eq, Tie.opcode_eq, Tie.rcode_eq, Tie.is_response_eq p ext hext, Tie.flags_eq p ext hext]
  exact getters p ext hp

/-- the equalities themselves, one per function of the header API -/
theorem source_tie (p : Bytes) (ext : Option Nat) (hext : Tie.ExtOK ext) (a : Nat) (b : Bool) :
    Tr.Header.tid p = hTid p ∧ Tr.Header.set_tid p a = hSetTid p a ∧ Tr.Header.flags p ext = hFlags p ext ∧
    Tr.Header.set_flags p a = hSetFlags p a ∧ Tr.Header.dnssec p ext = hDnssec p ext ∧
    Tr.Header.is_response p ext = hIsResponse p ext ∧ Tr.Header.set_response p b = hSetResponse p b ∧
    Tr.Header.rcode p = hRcode p ∧ Tr.Header.set_rcode p a = hSetRcode p a ∧
    Tr.Header.opcode p = hOpcode p ∧ Tr.Header.set_opcode p a = hSetOpcode p a :=
  ⟨Tie.tid_eq p, Tie.set_tid_eq p a, Tie.flags_eq p ext hext, Tie.set_flags_eq p a, Tie.dnssec_eq p ext hext,
   Tie.is_response_eq p ext hext, Tie.set_response_eq p b, Tie.rcode_eq p, Tie.set_rcode_eq p a,
   Tie.opcode_eq p, Tie.set_opcode_eq p a⟩

example : Tie.ExtOK (some 0x8000) := by intro e h; cases h; decide

end Dns.C12
