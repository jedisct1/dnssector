/-
  C10 — A failed operation changes nothing; the size limit cannot be bypassed.
  * `insert_size_limit`: for every object and every record bytes, a successful `insert_rr` leaves a packet of at most
    8192 bytes, whatever the size of the packet it started from;
  * `insert_failure_plain`: on a pointer-free object a failing `insert_rr` (too large, a second question, a full
    section) returns the object given; `insert_too_large`, `insert_full`: the first and the last of these refusals do
    occur, with PacketTooLarge / InvalidPacket, the object unchanged;
  * `delete_void_unchanged`, `set_name_void`: an operation through the cursor of a deleted record reports VoidRecord
    and returns object and cursor as they were;
  * `set_name_invalid` (+ `set_name_arg_total`): an invalid or over-long name is refused by the checker before any
    byte moves;
  * `set_ip_failure`: wrong address family / not an address record: error, object unchanged;
  * `rename_failure`: a rename that overflows a name (or whose result is refused) returns the object unchanged;
  * `set_name_too_large`: a name that would push the packet past 65535 bytes is refused; only the question cache is
    emptied.
  An unchanged object trivially still satisfies C08.  Not covered by a theorem (script correspondence only): malformed
  record text at the object API (the text is refused by synthesis, C13 `excluded_is_error`, before insertion is
  attempted), failures of insertion into a still-compressed object (decompression happens first; the bytes change, the
  decoded message does not).
-/
import DnsModel.Tie.Counts
import DnsModel.Tie.Insert
import DnsModel.Lemmas.SetName
namespace Dns.C10
open Dns Res

theorem ite_eq_ok {α} {c : Prop} [Decidable c] {a b : Res α} {r : α} (h : (if c then a else b) = .ok r) :
    (c ∧ a = .ok r) ∨ (¬ c ∧ b = .ok r) := by
  by_cases hc : c
  · exact .inl ⟨hc, by rwa [if_pos hc] at h⟩
  · exact .inr ⟨hc, by rwa [if_neg hc] at h⟩

/-- `pre`: decompression if the flag is set (nothing on a pointer-free object); `k`: the splice -/
theorem insertRR_steps (pp : PP) (sect : Section) (rr : Bytes) :
    ∃ (pre : Res (PP × Option Err)) (k : PP × Option Err → Res (PP × Option Err)),
      insertRR pp sect rr = (pre >>= fun r => if r.2.isSome then .ok r else
        if r.1.packet.length + rr.length > 8192 then .ok (r.1, some .packetTooLarge) else rrcountInc r.1 sect >>= k) ∧
      (pp.maybeCompressed = false → pre = .ok (pp, none)) ∧
      (∀ pp1 e, k (pp1, some e) = .ok (pp1, some e)) ∧
      (∀ pp1 pp' e, k (pp1, none) = .ok (pp', e) → e = none ∧ pp'.packet.length = pp1.packet.length + rr.length) := by
  refine ⟨_, _, rfl, fun hmc => by rw [if_neg (by rw [hmc]; exact Bool.false_ne_true)]; rfl, fun _ _ => rfl, fun pp1 pp' e h => ?_⟩
  simp only [Option.isSome_none, Bool.false_eq_true, if_false] at h
  obtain ⟨io, _, h⟩ := bind_eq_ok.1 h
  obtain ⟨_, h⟩ | ⟨hle, h⟩ := ite_eq_ok h
  · cases h
  have hlen : (pp1.packet.take io ++ rr ++ pp1.packet.drop io).length = pp1.packet.length + rr.length := by
    simp only [List.length_append, List.length_take, List.length_drop]
    omega
  cases sect <;> cases h <;> exact ⟨rfl, hlen⟩

/-- `pp0`: the object that decompression left (`pp` itself if it was pointer-free) -/
theorem insertRR_ok {pp pp' : PP} {sect : Section} {rr : Bytes} {e : Option Err} (h : insertRR pp sect rr = .ok (pp', e)) :
    ∃ pp0 : PP, (pp.maybeCompressed = false → pp0 = pp) ∧
      ((e.isSome = true ∧ pp' = pp0) ∨
       (e = none ∧ pp0.packet.length + rr.length ≤ 8192 ∧ pp'.packet.length = pp0.packet.length + rr.length)) := by
  obtain ⟨pre, k, heq, hpre, hpass, hsplice⟩ := insertRR_steps pp sect rr
  rw [heq] at h
  obtain ⟨⟨pp0, e0⟩, h0, h⟩ := bind_eq_ok.1 h
  refine ⟨pp0, fun hmc => by rw [hpre hmc] at h0; cases h0; rfl, ?_⟩
  obtain ⟨he, h⟩ | ⟨_, h⟩ := ite_eq_ok h
  · cases h; exact .inl ⟨he, rfl⟩
  obtain ⟨_, h⟩ | ⟨hsz, h⟩ := ite_eq_ok h
  · cases h; exact .inl ⟨rfl, rfl⟩
  obtain ⟨⟨pp2, e2⟩, hr2, h⟩ := bind_eq_ok.1 h
  obtain ⟨rfl, rfl⟩ | ⟨rfl, hl2⟩ := rrcountInc_inv hr2
  · rw [hpass] at h; cases h; exact .inl ⟨rfl, rfl⟩
  · obtain ⟨rfl, hl⟩ := hsplice _ _ _ h
    exact .inr ⟨rfl, Nat.not_lt.1 hsz, by rw [hl, hl2]⟩

/-- C10, the size limit cannot be bypassed: whatever the object and the record, a successful insertion leaves at most
8192 bytes -/
theorem insert_size_limit (pp pp' : PP) (sect : Section) (rr : Bytes) (h : insertRR pp sect rr = .ok (pp', none)) :
    pp'.packet.length ≤ 8192 := by
  obtain ⟨pp0, _, ⟨he, _⟩ | ⟨_, hsz, hl⟩⟩ := insertRR_ok h
  · cases he
  · rw [hl]; exact hsz

/-- C10, a failed insertion changes nothing (pointer-free object), whatever the reason reported: too large, a second
question, a full section -/
theorem insert_failure_plain (pp pp' : PP) (sect : Section) (rr : Bytes) (e : Err) (hmc : pp.maybeCompressed = false)
    (h : insertRR pp sect rr = .ok (pp', some e)) : pp' = pp := by
  obtain ⟨pp0, h0, ⟨_, hp⟩ | ⟨he, _⟩⟩ := insertRR_ok h
  · exact hp.trans (h0 hmc)
  · cases he

/-- over the limit with the record: refused, unchanged -/
theorem insert_too_large (pp : PP) (sect : Section) (rr : Bytes) (hmc : pp.maybeCompressed = false)
    (hbig : pp.packet.length + rr.length > 8192) : insertRR pp sect rr = .ok (pp, some .packetTooLarge) := by
  obtain ⟨pre, k, heq, hpre, _⟩ := insertRR_steps pp sect rr
  rw [heq, hpre hmc, bind_ok]
  simp only [Option.isSome_none, Bool.false_eq_true, if_false, if_pos hbig]

/-- so is one more record for a section that already holds 65535 -/
theorem insert_full (pp : PP) (sect : Section) (rr : Bytes) (hmc : pp.maybeCompressed = false)
    (hsize : pp.packet.length + rr.length ≤ 8192) {n : Nat} (hn : sectionCount pp.packet sect = .ok n) (hfull : n ≥ 0xffff) :
    insertRR pp sect rr = .ok (pp, some .invalidPacket) := by
  obtain ⟨pre, k, heq, hpre, hpass, _⟩ := insertRR_steps pp sect rr
  rw [heq, hpre hmc, bind_ok]
  simp only [Option.isSome_none, Bool.false_eq_true, if_false, if_neg (Nat.not_lt.2 hsize), rrcountInc_full hn hfull, bind_ok, hpass]

/-- C10, `delete` through a void cursor (nothing yielded yet, or the record already deleted): reported, object and
cursor as they were -/
theorem delete_void_unchanged (pp : PP) (c : Cursor) (h : c.offset = none) :
    deleteRR pp c = .ok { pp := pp, cur := c, result := some .voidRecord } := delete_void pp c h

/-- C10, an invalid or over-long name: `set_raw_name` reports the checker's error before anything moves -/
theorem set_name_invalid (pp : PP) (c : Cursor) (name : Bytes) (e : Err) (h : checkCompressedName name 0 = .err e) :
    setRawName pp c name = .ok { pp := pp, cur := c, result := some e } := by
  unfold setRawName
  rw [h]
  rfl

/-- the name checker never panics or loops: an argument is either accepted or refused with an error -/
theorem set_name_arg_total (name : Bytes) :
    (∃ e, checkCompressedName name 0 = .err e) ∨ (∃ n, checkCompressedName name 0 = .ok n) :=
  checkCompressedName_total name 0

/-- `set_raw_name` through a void cursor on a pointer-free object: reported, nothing touched -/
theorem set_name_void (pp : PP) (c : Cursor) (name : Bytes) {n : Nat} (hn : checkCompressedName name 0 = .ok n)
    (hmc : pp.maybeCompressed = false) (h : c.offset = none) :
    setRawName pp c name = .ok { pp := pp, cur := c, result := some .voidRecord } := by
  unfold setRawName
  simp only [hn, hmc, h, mOk, mErr, Bool.false_eq_true, if_false, bind_ok, Option.isSome_none]

/-- C10, wrong address family / not an address record: `set_rr_ip` reports it, the object is unchanged -/
theorem set_ip_failure (pp pp' : PP) (c : Cursor) (ip : Bytes) (e : Err) (h : setRrIp pp c ip = .ok (pp', some e)) : pp' = pp :=
  setRrIp_failure pp pp' c ip e h

/-- what a rename at object level returns: an error value and the object given, or exactly the view a
fresh parse of the renamed bytes gives (the flag set, as after `parse`) -/
theorem rename_inv {pp pp' : PP} {target source : Bytes} {sfx : Bool} {r : Option Err}
    (h : pp.renameWithRawNames target source sfx = .ok (pp', r)) :
    (∃ e, r = some e ∧ pp' = pp) ∨
    (r = none ∧ ∃ v, Fresh pp' pp'.packet v ∧ pp'.offsetEdns = v.offsetEdns ∧ pp'.cached = none) := by
  unfold PP.renameWithRawNames at h
  cases hr : Dns.renameWithRawNames pp target source sfx with
  | err e' => rw [hr] at h; cases h; exact .inl ⟨e', rfl, rfl⟩
  | panic => rw [hr] at h; cases h
  | diverge => rw [hr] at h; cases h
  | ok packet =>
    rw [hr] at h
    simp only at h
    cases hp : parse packet with
    | err e' => rw [hp] at h; cases h; exact .inl ⟨e', rfl, rfl⟩
    | panic => rw [hp] at h; cases h
    | diverge => rw [hp] at h; cases h
    | ok v =>
      rw [hp] at h
      simp only at h
      obtain ⟨_, h⟩ | ⟨hcond, h⟩ := ite_eq_ok h
      · cases h
      · cases h
        simp only [Bool.or_eq_true, bne_iff_ne, ne_eq, not_or, Decidable.not_not] at hcond
        obtain ⟨⟨⟨c1, c2⟩, c3⟩, c4⟩ := hcond
        exact .inr ⟨rfl, v, ⟨hp, rfl, rfl, c1.symm, c2.symm, c3.symm, c4.symm, rfl, rfl, rfl, rfl⟩, rfl, rfl⟩

/-- C10, a rename that fails (a renamed name would overflow, or the result is refused) returns the object unchanged -/
theorem rename_failure (pp pp' : PP) (target source : Bytes) (sfx : Bool) (e : Err)
    (h : pp.renameWithRawNames target source sfx = .ok (pp', some e)) : pp' = pp := by
  obtain ⟨_, _, hp⟩ | ⟨hr, _⟩ := rename_inv h
  · exact hp
  · cases hr

/-- C10, `set_raw_name` refused for size (the packet would exceed 65535 bytes): PacketTooLarge; only the question cache
is emptied (so the object is still consistent and decodes to the same message) -/
theorem set_name_too_large {pp : PP} (P : PlainObj pp) (sec : Section) (hs : sec.isRec = true) {ps1 ps2 : List Bytes} {rc : Bytes}
    (hsplit : P.lst sec = ps1 ++ rc :: ps2) (c : Cursor) {ne : Nat} {ob oa : Bool}
    (hr : RRAtPos pp.packet sec ⟨P.start sec + ps1.flatten.length, ne, P.start sec + ps1.flatten.length + rc.length⟩ ob oa)
    (hoff : c.offset = some (P.start sec + ps1.flatten.length)) (hne : c.nameEnd = ne)
    (owner' : List (List UInt8)) (hgo' : GoodLabels owner')
    (hgrow : ne - (P.start sec + ps1.flatten.length) < labSum owner' + 1)
    (hbig : pp.packet.length + (labSum owner' + 1) - (ne - (P.start sec + ps1.flatten.length)) > 65535) :
    setRawName pp c (encLabels owner' ++ [0]) = .ok { pp := { pp with cached := none }, cur := c, result := some .packetTooLarge } :=
  P.set_name_too_large sec hs hsplit c hr hoff hne owner' hgo' hgrow hbig

/-- tie to the current source text: `rrcount_inc`, `rrcount_dec`, `insertion_offset` of parsed_packet.rs with the
`set_*count` writers of dns_sector.rs, re-translated on every run (`Generated/TrCounts.lean`, `Tie/Counts.lean`) -/
theorem source_counts_tie (pp : PP) (s : Section) :
    (Tr.Counts.rrcount_inc pp.packet s >>= fun r => Res.ok r.2) = (rrcountInc pp s >>= Tie.incResult) ∧
    Tr.Counts.rrcount_dec pp.packet s = (rrcountDec pp s >>= fun r => Res.ok (r.2, r.1.packet)) ∧
    Tr.Counts.insertion_offset pp.packet pp.offsetAnswers pp.offsetNameservers pp.offsetAdditional s
      = insertionOffset pp s :=
  ⟨Tie.rrcount_inc_eq pp s, Tie.rrcount_dec_eq pp s, Tie.insertion_offset_eq pp s⟩

/-- `Tr.Counts.insert_rr` is `ParsedPacket::insert_rr` as re-translated from /repo/src/parsed_packet.rs on every run (with
`rrcount_inc`, `insertion_offset`, the `set_*count` writers and `recompute`; `Compress::uncompress` is the model's): on
an object that needs no decompression and whose section starts lie inside the packet it computes what the model's
`insertRR` computes, a refusal of the model being an error of the source (`Tie/Insert.lean`, where
`insert_rr_compressed` does the same for the path through decompression) -/
theorem source_insert_rr (pp : PP) (s : Section) (rr : Bytes) (hmc : pp.maybeCompressed = false) (hoff : Tie.OffOK pp) :
    Tr.Counts.insert_rr pp.packet pp.offsetQuestion pp.offsetAnswers pp.offsetNameservers pp.offsetAdditional pp.offsetEdns
        pp.ednsCount pp.extRcode pp.ednsVersion pp.extFlags pp.maybeCompressed pp.cached s rr
      = (insertRR pp s rr >>= Tie.insFinish) :=
  Tie.insert_rr_plain pp s rr hmc hoff

end Dns.C10
