/-
  C07 — Renaming rewrites exactly the matching names and nothing else: `rename_spec`, for every accepted packet
  (compressed or not), every pair of well-formed, pointer-free, non-root names `src`, `tgt` (`ArgName`) and both
  modes; `rename_self`: renaming a name to itself keeps every name up to case and never fails.
-/
import DnsModel.Lemmas.RenameRun
import DnsModel.Lemmas.Rebuild
import DnsModel.Tie.Rename
import DnsModel.Tie.Reader
import DnsModel.Theorems.C03
namespace Dns.C07
open Dns Res

/-- some name of the message overflows under the renaming -/
def Overflow (src tgt : List (List UInt8)) (sfx : Bool) (u : Bytes) (L : C03.Layout u) : Prop :=
  (∃ ls lsr, ValidName u 12 ls L.qe ∧ Renamed src tgt sfx ls lsr ∧ 255 < wireLen lsr) ∨
  ∃ r ∈ L.answers ++ L.authority ++ L.additional, RecOverflow (Renamed src tgt sfx) u r

theorem walks {u : Bytes} {v : View} (h : parse u = .ok v) (L : C03.Layout u) :
    collectWalk (PP.ofView u v) nextQuestion sectionFuel (Cursor.new .question) =
      .ok [⟨.question, some 12, L.qe + 4, L.qe, 0⟩] ∧
    (∃ cs, collectWalk (PP.ofView u v) nextIncludingOpt sectionFuel (Cursor.new .answer) = .ok cs ∧
      cs.map posOf = L.answers.map some) ∧
    (∃ cs, collectWalk (PP.ofView u v) nextIncludingOpt sectionFuel (Cursor.new .nameServers) = .ok cs ∧
      cs.map posOf = L.authority.map some) ∧
    (∃ cs, collectWalk (PP.ofView u v) nextIncludingOpt sectionFuel (Cursor.new .additional) = .ok cs ∧
      cs.map posOf = L.additional.map some) := by
  obtain ⟨ia, inn, ir⟩ := C03.secInfo_of h L
  have mono : ∀ {sec : Section} {l : List RecPos} {off e : Nat} {ob oe : Bool}, RRsL u sec l off ob e oe → l.length < 65536 →
      secInfo (PP.ofView u v) sec = .ok (l.length, if l.length > 0 then some off else none) →
      ∃ cs, collectWalk (PP.ofView u v) nextIncludingOpt sectionFuel (Cursor.new sec) = .ok cs ∧ cs.map posOf = l.map some := by
    intro sec l off e ob oe hl hlt hi
    obtain ⟨cs, hcs, hpos⟩ := walk_incl (pp := PP.ofView u v) hl hi
    refine ⟨cs, ?_, hpos⟩
    have := collectWalk_mono _ _ _ hcs (sectionFuel - (l.length + 1))
    rwa [Nat.add_sub_cancel' (by unfold sectionFuel; omega)] at this
  refine ⟨?_, mono L.ha (L.na ▸ get16_lt u 6) ia, mono L.hn (L.nn ▸ get16_lt u 8) inn, mono L.hr (L.nr ▸ get16_lt u 10) ir⟩
  obtain ⟨qe, hqe, hqw⟩ := C03.question_walk h
  obtain rfl : qe = L.qe := nameEnds_functional hqe L.hq.1
  exact collectWalk_mono _ _ _ hqw (sectionFuel - 2)

/-- **C07**: either the call returns a packet that satisfies the acceptance policy, has the input's header, and
whose question and records are, one by one and in order, the input's with every name replaced, up to ASCII case,
by its renaming (`Renamed`: the name, or in suffix mode a suffix of it on a label boundary, that equals `src` up
to case is replaced by `tgt`; anything else is kept), all other bytes (type, class, TTL, opaque data, OPT)
identical — or it fails with `InvalidName` and some renamed name exceeds 255 bytes. -/
theorem rename_spec {u : Bytes} {v : View} (h : parse u = .ok v) (L : C03.Layout u) {src tgt : List (List UInt8)}
    (hs : ArgName src) (ht : ArgName tgt) (sfx : Bool) :
    (∃ c, renameWithRawNames (PP.ofView u v) (encLabels tgt ++ [0]) (encLabels src ++ [0]) sfx = .ok c ∧ WF c ∧
      c.take 12 = u.take 12 ∧
      ∃ L' : C03.Layout c,
        (∃ ls lsr ls', ValidName u 12 ls L.qe ∧ Renamed src tgt sfx ls lsr ∧ ValidName c 12 ls' L'.qe ∧ lsCi ls' lsr ∧
          (c.drop L'.qe).take 4 = (u.drop L.qe).take 4) ∧
        RunRen (Renamed src tgt sfx) u c L.answers L'.answers ∧ RunRen (Renamed src tgt sfx) u c L.authority L'.authority ∧
        RunRen (Renamed src tgt sfx) u c L.additional L'.additional) ∨
    (renameWithRawNames (PP.ofView u v) (encLabels tgt ++ [0]) (encLabels src ++ [0]) sfx = .err .invalidName ∧
      Overflow src tgt sfx u L) := by
  obtain ⟨hwq, ⟨csa, hwa, hpa⟩, ⟨csn, hwn, hpn⟩, ⟨csr, hwr, hpr⟩⟩ := walks h L
  have hwf := C02.accepted_wf u v h
  have hpk : (PP.ofView u v).packet = u := rfl
  generalize PP.ofView u v = pp at hwq hwa hwn hwr hpk ⊢
  subst hpk
  obtain ⟨qls, hvq⟩ := L.hq.1
  have ht1 := ht.len
  have hs1 := hs.len
  rw [wireLen_eq] at ht1 hs1
  have c1 : (decide (labSum tgt + 1 ≤ 0) || decide (labSum src + 1 ≤ 0)) = false := by simp
  have c2 : (decide (labSum tgt + 1 > 255) || decide (labSum src + 1 > 255)) = false := by simp; omega
  have hrun : renameWithRawNames pp (encLabels tgt ++ [0]) (encLabels src ++ [0]) sfx = (do
      let st ← renameQuestionItem pp (encLabels tgt ++ [0]) (encLabels src ++ [0]) sfx ({}, pp.packet.take 12)
        ⟨.question, some 12, L.qe + 4, L.qe, 0⟩
      let st ← foldRes (renameResponseItem pp (encLabels tgt ++ [0]) (encLabels src ++ [0]) sfx) st csa
      let st ← foldRes (renameResponseItem pp (encLabels tgt ++ [0]) (encLabels src ++ [0]) sfx) st csn
      let st ← foldRes (renameResponseItem pp (encLabels tgt ++ [0]) (encLabels src ++ [0]) sfx) st csr
      pure st.2) := by
    have hb : ∀ x : Res (SuffixDict × Bytes), x.bind (fun a => .ok a) = x := Res.bind_pure
    unfold renameWithRawNames
    simp only [encLen_eq, failIf, DNS_MAX_HOSTNAME_LEN, DNS_HEADER_SIZE, c1, c2, Bool.false_eq_true, if_false, bind_ok,
      slice_add (Nat.zero_add 12 ▸ hwf.1), List.drop_zero, walkFold_collect _ _ _ _ hwq, walkFold_collect _ _ _ _ hwa,
      walkFold_collect _ _ _ _ hwn, walkFold_collect _ _ _ _ hwr, foldRes, hb]
  generalize hX : renameWithRawNames pp (encLabels tgt ++ [0]) (encLabels src ++ [0]) sfx = X
  rw [hrun] at hX
  obtain ⟨qlsr, hqren, ⟨d1, qem, qls', hqrun, _, hqci, hdq, hqval⟩ | ⟨herr, hbig⟩⟩ :=
    rename_question hvq L.hq.2 hs ht sfx {} (pp.packet.take 12) (DictInv.empty _)
  · rw [hqrun] at hX
    rcases fold_rename hs ht sfx L.ha csa hpa d1 _ hdq with
      ⟨d2, ema, fa, hda, halla⟩ | ⟨herr, r, hr, hov⟩
    · simp only [bind_ok, fa] at hX
      rcases fold_rename hs ht sfx L.hn csn hpn d2 _ hda with
        ⟨d3, emn, fn, hdn, halln⟩ | ⟨herr, r, hr, hov⟩
      · simp only [bind_ok, fn] at hX
        rcases fold_rename hs ht sfx L.hr csr hpr d3 _ hdn with
          ⟨d4, emr, fr, _, hallr⟩ | ⟨herr, r, hr, hov⟩
        · simp only [bind_ok, fr, pure_eq] at hX
          subst hX
          left
          obtain ⟨la, rla, cla, _⟩ := halla (emn ++ emr)
          obtain ⟨ln, rln, cln, _⟩ := halln emr
          obtain ⟨lr, rlr, clr, _⟩ := hallr []
          rw [← List.append_assoc, ← List.length_append] at rla
          rw [← List.append_assoc] at cla
          rw [← List.length_append] at rln
          rw [List.append_nil, ← List.length_append] at rlr
          rw [List.append_nil] at clr
          have hvqc := hqval (ema ++ emn ++ emr)
          rw [← List.append_assoc, ← List.append_assoc, List.length_take_of_le hwf.1] at hvqc
          obtain ⟨hwfc, hhdr, L', hqe, hq4, ea, en, er⟩ :=
            layout_rebuilt hwf L rfl hvqc rla rln rlr cla.length cln.length clr.length
          exact ⟨_, rfl, hwfc, hhdr, L', ⟨qls, qlsr, qls', hvq, hqren, hqe ▸ hvqc, hqci, hq4⟩, ea ▸ cla, en ▸ cln, er ▸ clr⟩
        · simp only [herr, bind_err] at hX
          subst hX
          exact Or.inr ⟨rfl, Or.inr ⟨r, by simp [hr], hov⟩⟩
      · simp only [herr, bind_err] at hX
        subst hX
        exact Or.inr ⟨rfl, Or.inr ⟨r, by simp [hr], hov⟩⟩
    · simp only [bind_ok, herr, bind_err] at hX
      subst hX
      exact Or.inr ⟨rfl, Or.inr ⟨r, by simp [hr], hov⟩⟩
  · rw [herr] at hX
    subst hX
    exact Or.inr ⟨rfl, Or.inl ⟨qls, qlsr, hvq, hqren, hbig⟩⟩

theorem renamed_ci {src tgt ls ls' : List (List UInt8)} {sfx : Bool} (hts : lsCi tgt src) (h : Renamed src tgt sfx ls ls') :
    lsCi ls' ls := by
  cases h with
  | hit a b hci _ => exact (lsCi.refl a).append (hts.trans hci.symm)
  | miss _ _ => exact lsCi.refl _

theorem rename_case {u : Bytes} {v : View} (h : parse u = .ok v) (L : C03.Layout u) {src tgt : List (List UInt8)}
    (hs : ArgName src) (ht : ArgName tgt) (hts : lsCi tgt src) (sfx : Bool) :
    ∃ c, renameWithRawNames (PP.ofView u v) (encLabels tgt ++ [0]) (encLabels src ++ [0]) sfx = .ok c ∧ WF c ∧
      c.take 12 = u.take 12 ∧
      ∃ L' : C03.Layout c,
        (∃ ls ls', ValidName u 12 ls L.qe ∧ ValidName c 12 ls' L'.qe ∧ lsCi ls' ls ∧
          (c.drop L'.qe).take 4 = (u.drop L.qe).take 4) ∧
        RunCi u c L.answers L'.answers ∧ RunCi u c L.authority L'.authority ∧ RunCi u c L.additional L'.additional := by
  rcases rename_spec h L hs ht sfx with ⟨c, hc, hwf, hhdr, L', ⟨ls, lsr, ls', q1, q2, q3, q4, q5⟩, ra, rn, rr⟩ | ⟨_, hov⟩
  · exact ⟨c, hc, hwf, hhdr, L', ⟨ls, ls', q1, q3, q4.trans (renamed_ci hts q2), q5⟩, ra.ci (renamed_ci hts),
      rn.ci (renamed_ci hts), rr.ci (renamed_ci hts)⟩
  · -- the renamed name has the length of the name it comes from, which the policy bounds by 255
    have hno : ∀ {off e : Nat} {ls lsr : List (List UInt8)}, ValidName u off ls e → Renamed src tgt sfx ls lsr →
        ¬ 255 < wireLen lsr := fun hv hr hbig => by
      have := (renamed_ci hts hr).wireLen
      have := hv.2.2.1
      omega
    rcases hov with ⟨_, _, hv, hr, hbig⟩ | ⟨_, _, _, _, _, _, _, _, hv, hr, hbig⟩
    · exact absurd hbig (hno hv hr)
    · exact absurd hbig (hno hv hr)

/-- renaming a name to itself never fails, and the result is the input up to the case of names -/
theorem rename_self {u : Bytes} {v : View} (h : parse u = .ok v) (L : C03.Layout u) {src : List (List UInt8)}
    (hs : ArgName src) (sfx : Bool) :
    ∃ c, renameWithRawNames (PP.ofView u v) (encLabels src ++ [0]) (encLabels src ++ [0]) sfx = .ok c ∧ WF c ∧
      c.take 12 = u.take 12 ∧
      ∃ L' : C03.Layout c,
        (∃ ls ls', ValidName u 12 ls L.qe ∧ ValidName c 12 ls' L'.qe ∧ lsCi ls' ls ∧
          (c.drop L'.qe).take 4 = (u.drop L.qe).take 4) ∧
        RunCi u c L.answers L'.answers ∧ RunCi u c L.authority L'.authority ∧ RunCi u c L.additional L'.additional :=
  rename_case h L hs hs (lsCi.refl src) sfx

/-! non-vacuity: in the sample packet of C02, renaming `a` to `bb` rewrites the question and, through the
pointer, the answer's owner name -/
example : (parsePP C02.okPacket >>= fun pp => renameWithRawNames pp [2, 98, 98, 0] [1, 97, 0] false) =
    .ok [0,7,0x80,0, 0,1, 0,1, 0,0, 0,1,  2,98,98,0, 0,1, 0,1,  0xc0,12, 0,1, 0,1, 0,0,0,9, 0,4, 1,2,3,4,
         0, 0,41, 4,0xd0, 0,0,0,0, 0,6, 0,10,0,2,7,7] := by decide +kernel

/-! Tie to the source text: the readers and the suffix dictionary's comparison, which the renamer's compressor
uses, are re-translated from /repo/src/compress.rs by rs2lean.py on every run (`Generated/TrReader.lean`) and
proved equal to the model functions used above (`Tie/Reader.lean`). -/
theorem source_reader_tie (p pre n1 n2 : Bytes) (off : Nat) :
    Tr.Reader.raw_name_len p = rawNameLen p ∧
    Tr.Reader.raw_name_len_after_decompression p off = rawNameLenAfterDecompression p off ∧
    Tr.Reader.copy_uncompressed_name pre p off
      = (copyUncompressedName p off >>= fun r => Res.ok ((r.1.length, r.2), pre ++ r.1)) ∧
    Tr.Reader.raw_names_eq_ignore_case n1 n2 = .ok (rawNamesEqIgnoreCase n1 n2) :=
  Tie.reader_tie p pre n1 n2 off

/-- `Renamer::replace_raw`, re-translated from /repo/src/renamer.rs on every run (`Generated/TrRename.lean`), is the
model function that `replaceRaw_spec` characterises (`Tie/Rename.lean`) -/
theorem source_replace_raw (name target source : Bytes) (sfx : Bool) :
    Tr.Rename.replace_raw name target source sfx = replaceRaw name target source sfx :=
  Tie.replace_raw_eq name target source sfx

end Dns.C07
