/-
  C04 — Header, question and EDNS summaries equal what the bytes say.
  * `header_summary`: id, opcode, rcode, response bit, the 32-bit flag word bit by bit, and the DNSSEC indicator (AD
    for responses, DO for queries) are the fields of the header word and of the OPT record's flag word;
  * `question_summary` (`parse p = .ok v`, object `PP.ofView p v`): the question in raw, raw-without-root and
    lowercase-text form with its type and class is the name the name relation assigns at offset 12 and the two
    words after it, with the cache empty and with the cache filled;
  * `edns_summary`: EDNS start, option count, extended rcode, version, extended flags and payload size are those of
    the one OPT record of the additional section, and the defaults (none, 0, 512) when there is none.
-/
import DnsModel.Lemmas.Question
import DnsModel.Theorems.C12
import DnsModel.Theorems.C03
namespace Dns.C04
open Dns Res

theorem header_summary (p : Bytes) (ext : Option Nat) (hp : 12 ≤ p.length) :
    hTid p = .ok (get16 p 0) ∧ hOpcode p = .ok (C12.opcodeOf (C12.word p)) ∧
    hRcode p = .ok (C12.rcodeOf (C12.word p)) ∧
    hIsResponse p ext = .ok ((C12.word p).testBit 15) ∧
    (∃ f, hFlags p ext = .ok f ∧ (∀ i, i < 16 → f.testBit i = (flagBit i && (C12.word p).testBit i)) ∧
        (∀ i, f.testBit (i + 16) = (ext.getD 0).testBit i)) ∧
    hDnssec p ext = .ok (if (C12.word p).testBit 15 then (C12.word p).testBit 5 else (ext.getD 0).testBit 15) := by
  obtain ⟨g1, g2, g3, g4, f, hf, hlo, hhi⟩ := C12.getters p ext hp
  refine ⟨g1, g2, g3, g4, ⟨f, hf, hlo, hhi⟩, ?_⟩
  unfold hDnssec
  simp only [hf, bind_ok, pure_eq]
  have e15 : DNS_FLAG_QR = 2 ^ 15 := rfl
  have e31 : DNS_FLAG_DO = 2 ^ 31 := rfl
  have e5 : DNS_FLAG_AD = 2 ^ 5 := rfl
  have b15 : f.testBit 15 = (C12.word p).testBit 15 := by rw [hlo 15 (by decide)]; simp +decide [flagBit]
  have b5 : f.testBit 5 = (C12.word p).testBit 5 := by rw [hlo 5 (by decide)]; simp +decide [flagBit]
  have b31 : f.testBit 31 = (ext.getD 0).testBit 15 := hhi 15
  rw [e15, e31, e5, and_two_pow_eq, and_two_pow_eq, and_two_pow_eq, b15, b5, b31]
  cases (C12.word p).testBit 15 <;> cases (C12.word p).testBit 5 <;> cases (ext.getD 0).testBit 15 <;> simp +decide

/-- C04, question, with `ls` the labels of the question name; `pp'`: the cache filled. -/
theorem question_summary {p : Bytes} {v : View} (h : parse p = .ok v) :
    ∃ qe ls, ValidName p 12 ls qe ∧
      let pp := PP.ofView p v
      let q := (encLabels ls ++ [0], get16 p qe, get16 p (qe + 2))
      let pp' := { pp with cached := some q }
      questionRaw0 pp = .ok (some q, pp') ∧
      questionRaw pp = .ok (some (encLabels ls, q.2.1, q.2.2), pp') ∧
      questionText pp = .ok (some (lowerBytes (joinText [] ls), q.2.1, q.2.2)) ∧
      qtypeQclass pp = .ok (some (q.2.1, q.2.2)) ∧
      questionRaw0 pp' = .ok (some q, pp') ∧
      questionRaw pp' = .ok (some (encLabels ls, q.2.1, q.2.2), pp') ∧
      questionText pp' = .ok (some (lowerBytes (joinText [] ls), q.2.1, q.2.2)) ∧
      qtypeQclass pp' = .ok (some (q.2.1, q.2.2)) := by
  obtain ⟨hl, -, qe, ⟨ls, hv⟩, hq4, -⟩ := C02.accepted_wf p v h
  obtain ⟨-, v1, -⟩ := C03.accepted_layout h
  refine ⟨qe, ls, hv, ?_⟩
  have hgt : 12 < qe := hv.2.1.lt
  have hlen : rawNameLen (p.drop 12) = .ok (qe - 12) := rawNameLen_nameAt hv.2.1 (by omega)
  have ht : be16 p qe = .ok (get16 p qe) := be16_ok (by omega)
  have hc : be16 p (qe + 2) = .ok (get16 p (qe + 2)) := be16_ok (by omega)
  have hsl := sliceFrom_ok (p := p) (a := qe) (by omega)
  have hsl12 := sliceFrom_ok (p := p) (a := 12) (by omega)
  have hq12 : 12 + (qe - 12) = qe := by omega
  have hsub : sub (encLabels ls ++ [0]).length 1 = .ok (encLabels ls).length := by
    rw [List.length_append]; exact if_pos (Nat.le_add_left _ _)
  have htake : (encLabels ls ++ [0]).take (encLabels ls).length = encLabels ls := List.take_left' rfl
  -- the cold reads go through the packet, the warm ones through the cached name, itself a valid name
  have r0 : questionRaw0 (PP.ofView p v) = .ok (some (encLabels ls ++ [0], get16 p qe, get16 p (qe + 2)),
      { PP.ofView p v with cached := some (encLabels ls ++ [0], get16 p qe, get16 p (qe + 2)) }) := by
    simp only [questionRaw0, PP.ofView, v1, copyUncompressedName_valid hv, hsl, DNS_RR_TYPE_OFFSET,
      DNS_RR_CLASS_OFFSET, ht, hc, bind_ok, pure_eq, Nat.add_zero]
  have r0' : questionRaw0 { PP.ofView p v with cached := some (encLabels ls ++ [0], get16 p qe, get16 p (qe + 2)) } =
      .ok (some (encLabels ls ++ [0], get16 p qe, get16 p (qe + 2)),
        { PP.ofView p v with cached := some (encLabels ls ++ [0], get16 p qe, get16 p (qe + 2)) }) := rfl
  refine ⟨r0, ?_, ?_, ?_, r0', ?_, ?_, rfl⟩
  · simp only [questionRaw, r0, bind_ok, hsub, pure_eq, htake]
  · simp only [questionText, PP.ofView, v1, rawNameToStr_valid hv, hsl12, hlen, hq12, hsl, DNS_RR_TYPE_OFFSET,
      DNS_RR_CLASS_OFFSET, ht, hc, bind_ok, pure_eq, Nat.add_zero]
  · simp only [qtypeQclass, PP.ofView, v1, hsl12, hlen, hq12, hsl, DNS_RR_TYPE_OFFSET, DNS_RR_CLASS_OFFSET, ht, hc,
      bind_ok, pure_eq, Nat.add_zero]
  · simp only [questionRaw, r0', bind_ok, hsub, pure_eq, htake]
  · simp only [questionText, rawNameToStr_valid (validName_of_enc hv.2.1.okLabels hv.2.2.1 hv.2.2.2), bind_ok, pure_eq]

/-- C04, EDNS; no section other than the additional one holds an OPT. -/
theorem edns_summary {p : Bytes} {v : View} (h : parse p = .ok v) :
    ∃ L : C03.Layout p,
      (∀ r ∈ L.answers ++ L.authority, get16 p r.ne ≠ 41) ∧
      match firstOpt p L.additional with
      | none => v.info = EdnsInfo.none
      | some r => ∃ n, OptionsTile p (r.ne + 10) (r.ne + 10 + get16 p (r.ne + 8)) n ∧ v.info = optInfo p r.ne n := by
  obtain ⟨L, -, -, -, -, -, h1, h2⟩ := C03.layout_full h
  exact ⟨L, h1, h2⟩

/-! non-vacuity: a response with an OPT carrying one option -/
example : (parse C02.okPacket).isOk = true := Res.isOk_iff.2 C02.okPacket_accepted

/-! The header summary about the getters translated from the current source text (`Generated/TrHeader.lean`,
rewritten by rs2lean.py on every run; equalities in `Tie/Header.lean`).  `ExtOK`: the EDNS flags are an
`Option<u16>` in Rust. -/

theorem source_header_summary (p : Bytes) (ext : Option Nat) (hp : 12 ≤ p.length) (hext : Tie.ExtOK ext) :
    Tr.Header.tid p = .ok (get16 p 0) ∧ Tr.Header.opcode p = .ok (C12.opcodeOf (C12.word p)) ∧
    Tr.Header.rcode p = .ok (C12.rcodeOf (C12.word p)) ∧
    Tr.Header.is_response p ext = .ok ((C12.word p).testBit 15) ∧
    (∃ f, Tr.Header.flags p ext = .ok f ∧ (∀ i, i < 16 → f.testBit i = (flagBit i && (C12.word p).testBit i)) ∧
        (∀ i, f.testBit (i + 16) = (ext.getD 0).testBit i)) ∧
    Tr.Header.dnssec p ext = .ok (if (C12.word p).testBit 15 then (C12.word p).testBit 5 else (ext.getD 0).testBit 15) := by
  simp only [Tie.tid_eq, Tie.opcode_eq, Tie.rcode_eq, Tie.is_response_eq p ext hext, Tie.flags_eq p ext hext,
    Tie.dnssec_eq p ext hext]
  exact header_summary p ext hp

end Dns.C04
