/-
  C05 — Decompression keeps the message; output is pointer-free, valid and stable.
  `uncompress_canonical`: for every accepted packet and every reference offset, decompression returns the 12 header
  bytes followed by the canonical form of the question and of every record of the three sections in wire order —
  owner and data names replaced by their pointer-free encodings (same labels), the eight fixed bytes and all other
  data (OPT included) verbatim, the data length recomputed — and the new position of the reference offset.
-/
import DnsModel.Theorems.C03
import DnsModel.Lemmas.Assemble
import DnsModel.Tie.Reader
namespace Dns.C05
open Dns Res

/-- the new position of `ref` after the question and the three runs -/
def carried (p : Bytes) (L : C03.Layout p) (ref : Nat) (qc : Bytes) (pa pn pr : List Bytes) : Option Nat :=
  let n0 : Option Nat := if ref = 12 then some 12 else none
  let n1 := carry ref L.answers pa (12 + qc.length) n0
  let n2 := carry ref L.authority pn (12 + qc.length + pa.flatten.length) n1
  let n3 := carry ref L.additional pr (12 + qc.length + pa.flatten.length + pn.flatten.length) n2
  if ref = p.length then some (12 + qc.length + pa.flatten.length + pn.flatten.length + pr.flatten.length) else n3

private theorem section_fold {pp : PP} {sec : Section} {l : List RecPos} {off e : Nat} {ob oe : Bool}
    (hl : RRsL pp.packet sec l off ob e oe) (hlen : l.length < 65536)
    (step : PP → Cursor → Res (Option Cursor))
    (hwalk : ∃ cs, collectWalk pp step (l.length + 1) (Cursor.new sec) = .ok cs ∧ cs.map posOf = l.map some) :
    ∃ ps, CanonRun pp.packet l ps ∧ ∀ (ref : Nat) (st : UState),
      walkFold pp step (uncompressItem pp ref true) sectionFuel (Cursor.new sec) st =
        .ok { out := st.out ++ ps.flatten, newOffset := carry ref l ps st.out.length st.newOffset } := by
  obtain ⟨cs, hcs, hpos⟩ := hwalk
  obtain ⟨ps, hps, hfold⟩ := fold_section hl cs hpos
  refine ⟨ps, hps, fun ref st => ?_⟩
  rw [walkFold_collect_le _ hcs (show l.length + 1 ≤ sectionFuel from Nat.succ_le_succ (Nat.le_of_lt hlen)), hfold]

theorem uncompress_at {p : Bytes} {v : View} (h : parse p = .ok v) (ref : Nat) (L : C03.Layout p) :
    ∃ (qc : Bytes) (pa pn pr : List Bytes),
      QCanon p L.qe qc ∧ CanonRun p L.answers pa ∧ CanonRun p L.authority pn ∧ CanonRun p L.additional pr ∧
      uncompressWithPreviousOffset p ref =
        match carried p L ref qc pa pn pr with
        | some n => .ok (p.take 12 ++ qc ++ pa.flatten ++ pn.flatten ++ pr.flatten, n)
        | none => .panic := by
  obtain ⟨wa, wn, _, wr⟩ := C03.walks_of h L
  rw [C03.no_opt_outside_additional L.ha (by decide)] at wa
  rw [C03.no_opt_outside_additional L.hn (by decide)] at wn
  obtain ⟨qe', hqe', hqw⟩ := C03.question_walk h
  obtain rfl : qe' = L.qe := nameEnds_functional hqe' L.hq.1
  obtain ⟨ls, hv⟩ := L.hq.1
  have hl12 : 12 ≤ p.length := (C02.accepted_wf p v h).1
  have hq := uncompressItem_question (pp := PP.ofView p v) hv L.hq.2 ref
  obtain ⟨pa, hpa, fa⟩ := section_fold (pp := PP.ofView p v) L.ha (L.na ▸ get16_lt p 6) nextSkippingOpt wa
  obtain ⟨pn, hpn, fn⟩ := section_fold (pp := PP.ofView p v) L.hn (L.nn ▸ get16_lt p 8) nextSkippingOpt wn
  obtain ⟨pr, hpr, fr⟩ := section_fold (pp := PP.ofView p v) L.hr (L.nr ▸ get16_lt p 10) nextIncludingOpt wr
  refine ⟨(encLabels ls ++ [0]) ++ (p.drop L.qe).take 4, pa, pn, pr, ⟨ls, hv, rfl⟩, hpa, hpn, hpr, ?_⟩
  -- the prelude: length check, header slice, parse; the state starts as the twelve header bytes
  simp only [uncompressWithPreviousOffset, failIf, DNS_HEADER_SIZE, Nat.not_lt.2 hl12, decide_false, Bool.false_eq_true,
    if_false, bind_ok, slice_ok (p := p) (a := 0) (b := 12) ⟨Nat.zero_le _, hl12⟩, parsePP, h, pure_eq, List.drop_zero,
    Nat.sub_zero]
  -- the four loops, each appending its pieces and carrying `ref`
  simp only [walkFold_collect_le _ hqw (by decide : 2 ≤ sectionFuel), foldRes, hq, bind_def, bind_ok, fa, fn, fr]
  -- what is left is `carried`, spelt with the lengths of the pieces
  simp only [apply_ite UState.out, apply_ite UState.newOffset, ite_self, beq_iff_eq, carried, List.length_append,
    List.length_take_of_le hl12]
  simp only [PP.ofView]
  split
  · rfl
  · generalize carry ref L.additional pr _ _ = car
    cases car <;> rfl

/-- C05: the shape of the output -/
theorem uncompress_canonical {p : Bytes} {v : View} (h : parse p = .ok v) (ref : Nat) :
    ∃ (L : C03.Layout p) (qc : Bytes) (pa pn pr : List Bytes),
      QCanon p L.qe qc ∧ CanonRun p L.answers pa ∧ CanonRun p L.authority pn ∧ CanonRun p L.additional pr ∧
      uncompressWithPreviousOffset p ref =
        match carried p L ref qc pa pn pr with
        | some n => .ok (p.take 12 ++ qc ++ pa.flatten ++ pn.flatten ++ pr.flatten, n)
        | none => .panic :=
  have ⟨L⟩ := C03.exists_layout h
  ⟨L, uncompress_at h ref L⟩

/-- what the output of decompression is, for the layout `L` of the input -/
structure Output (p : Bytes) (L : C03.Layout p) where
  qc : Bytes
  pa : List Bytes
  pn : List Bytes
  pr : List Bytes
  hq : QCanon p L.qe qc
  ha : CanonRun p L.answers pa
  hn : CanonRun p L.authority pn
  hr : CanonRun p L.additional pr

def Output.bytes {p : Bytes} {L : C03.Layout p} (o : Output p L) : Bytes :=
  p.take 12 ++ o.qc ++ o.pa.flatten ++ o.pn.flatten ++ o.pr.flatten

/-- C05: the output is accepted, has a layout with the same numbers of records of the same types in the same order,
and every piece of it — question and records — is already in canonical form, with the canonical forms of the
input: same labels in every name, same fixed fields, same other data. -/
theorem output_layout {p : Bytes} {v : View} (h : parse p = .ok v) {L : C03.Layout p} (o : Output p L) :
    WF o.bytes ∧ ∃ L' : C03.Layout o.bytes,
      QCanon o.bytes L'.qe o.qc ∧ CanonRun o.bytes L'.answers o.pa ∧ CanonRun o.bytes L'.authority o.pn ∧
      CanonRun o.bytes L'.additional o.pr ∧
      L'.answers.map (fun r => get16 o.bytes r.ne) = L.answers.map (fun r => get16 p r.ne) ∧
      L'.authority.map (fun r => get16 o.bytes r.ne) = L.authority.map (fun r => get16 p r.ne) ∧
      L'.additional.map (fun r => get16 o.bytes r.ne) = L.additional.map (fun r => get16 p r.ne) ∧
      L'.answers.map (·.off) = starts (12 + o.qc.length) o.pa ∧
      L'.authority.map (·.off) = starts (12 + o.qc.length + o.pa.flatten.length) o.pn ∧
      L'.additional.map (·.off) = starts (12 + o.qc.length + o.pa.flatten.length + o.pn.flatten.length) o.pr ∧
      (∀ r ∈ L'.answers ++ L'.authority ++ L'.additional, SelfCanon o.bytes r) := by
  obtain ⟨hl, hqd, qe0, hne0, _, hcl, hqr, _⟩ := C02.accepted_wf p v h
  obtain rfl : qe0 = L.qe := nameEnds_functional hne0 L.hq.1
  obtain ⟨qc, pa, pn, pr, ⟨ls, hv, rfl⟩, hpa, hpn, hpr⟩ := o
  have hH : (p.take 12).length = 12 := List.length_take_of_le hl
  have hq4 : ((p.drop L.qe).take 4).length = 4 := length_take_drop L.hq.2
  -- the output is assembled from the header, the question and the pieces of the input
  have hg : ∀ i, i + 2 ≤ 12 → get16 (p.take 12) i = get16 p i := fun i hi => by
    have := (agree_window p 0 12).get16 hi
    rw [Nat.zero_add] at this
    exact this
  have hcl' : get16 ((p.drop L.qe).take 4) 2 = 1 := by
    have := (agree_window p L.qe 4).get16 (i := 2) (Nat.le_refl _)
    rwa [Nat.zero_add, hcl] at this
  obtain ⟨hwf, L', hqe, hvq, _, _, _, _, _, ca, cn, cr, oa, on, or, hs⟩ :=
    assemble (p.take 12) ((p.drop L.qe).take 4) ls pa pn pr L.o2 L.o3 L.o4 hH ((hg 4 (by decide)).trans hqd)
      (validName_ok hv) hq4 hcl' (pieces_of_run L.ha pa hpa) (pieces_of_run L.hn pn hpn) (pieces_of_run L.hr pr hpr)
      ((hg 6 (by decide)).trans (L.na.symm.trans hpa.length.symm))
      ((hg 8 (by decide)).trans (L.nn.symm.trans hpn.length.symm))
      ((hg 10 (by decide)).trans (L.nr.symm.trans hpr.length.symm))
      (fun hq => by
        rw [hg 2 (by decide)] at hq
        obtain ⟨h6, h8⟩ := hqr hq
        exact ⟨List.eq_nil_of_length_eq_zero (by rw [hpa.length, L.na, h6]),
          List.eq_nil_of_length_eq_zero (by rw [hpn.length, L.nn, h8])⟩)
  have hw := window_eq (u := Output.bytes ⟨_, pa, pn, pr, ⟨ls, hv, rfl⟩, hpa, hpn, hpr⟩)
    (A := p.take 12 ++ (encLabels ls ++ [0])) (w := (p.drop L.qe).take 4) (B := pa.flatten ++ pn.flatten ++ pr.flatten)
    (by simp only [Output.bytes, List.append_assoc])
  rw [List.length_append, hH, encLen_eq, hq4, ← Nat.add_assoc, ← hqe] at hw
  have hlen : 12 + ((encLabels ls ++ [0]) ++ (p.drop L.qe).take 4).length = 12 + labSum ls + 1 + 4 := by
    rw [List.length_append, encLen_eq, hq4, ← Nat.add_assoc, ← Nat.add_assoc]
  refine ⟨hwf, L', ⟨ls, hvq, by rw [hw]⟩, ca, cn, cr, CanonRun.types_eq L.ha L'.ha hpa ca,
    CanonRun.types_eq L.hn L'.hn hpn cn, CanonRun.types_eq L.hr L'.hr hpr cr, ?_, ?_, ?_, hs⟩
  · rw [oa, hlen]
  · rw [on, hlen]
  · rw [or, hlen]

theorem layout_offsets {p : Bytes} (L : C03.Layout p) :
    12 < L.qe ∧ L.qe + 4 ≤ L.e2 ∧ L.e2 ≤ L.e3 ∧ L.e3 ≤ p.length ∧
    (∀ r ∈ L.answers, L.qe + 4 ≤ r.off ∧ r.off < L.e2) ∧ (∀ r ∈ L.authority, L.e2 ≤ r.off ∧ r.off < L.e3) ∧
    (∀ r ∈ L.additional, L.e3 ≤ r.off ∧ r.off < p.length) := by
  obtain ⟨ls, hv⟩ := L.hq.1
  have := hv.2.1.lt
  obtain ⟨b1, m1⟩ := L.ha.bounds
  obtain ⟨b2, m2⟩ := L.hn.bounds
  obtain ⟨b3, m3⟩ := L.hr.bounds
  exact ⟨this, b1, b2, b3, m1, m2, m3⟩

theorem carried_question {p : Bytes} (L : C03.Layout p) (qc : Bytes) (pa pn pr : List Bytes) :
    carried p L 12 qc pa pn pr = some 12 := by
  obtain ⟨hq, h1, h2, h3, _⟩ := layout_offsets L
  simp only [carried, if_true]
  rw [if_neg (by omega), L.hr.carry_outside (.inl (by omega)), L.hn.carry_outside (.inl (by omega)),
    L.ha.carry_outside (.inl (by omega))]

theorem carried_end {p : Bytes} (L : C03.Layout p) (qc : Bytes) (pa pn pr : List Bytes) :
    carried p L p.length qc pa pn pr =
      some (12 + qc.length + pa.flatten.length + pn.flatten.length + pr.flatten.length) := by
  simp only [carried, if_true]

theorem carried_answer {p : Bytes} (L : C03.Layout p) (qc : Bytes) (pa pn pr : List Bytes)
    (l1 : List RecPos) (r : RecPos) (l2 : List RecPos) (ps1 : List Bytes) (pc : Bytes) (ps2 : List Bytes)
    (hl : L.answers = l1 ++ r :: l2) (hp : pa = ps1 ++ pc :: ps2) (hlen : l1.length = ps1.length) :
    carried p L r.off qc pa pn pr = some (12 + qc.length + ps1.flatten.length) := by
  obtain ⟨hq, h1, h2, h3, ma, _⟩ := layout_offsets L
  have hr := ma r (hl ▸ List.mem_append_right _ List.mem_cons_self)
  have ha := L.ha
  rw [hl] at ha
  simp only [carried]
  rw [if_neg (by omega), L.hr.carry_outside (.inl (by omega)), L.hn.carry_outside (.inl (by omega)), hl, hp,
    ha.carry_at ps1 pc ps2 hlen]

theorem carried_authority {p : Bytes} (L : C03.Layout p) (qc : Bytes) (pa pn pr : List Bytes)
    (l1 : List RecPos) (r : RecPos) (l2 : List RecPos) (ps1 : List Bytes) (pc : Bytes) (ps2 : List Bytes)
    (hl : L.authority = l1 ++ r :: l2) (hp : pn = ps1 ++ pc :: ps2) (hlen : l1.length = ps1.length) :
    carried p L r.off qc pa pn pr = some (12 + qc.length + pa.flatten.length + ps1.flatten.length) := by
  obtain ⟨hq, h1, h2, h3, _, mn, _⟩ := layout_offsets L
  have hr := mn r (hl ▸ List.mem_append_right _ List.mem_cons_self)
  have hn := L.hn
  rw [hl] at hn
  simp only [carried]
  rw [if_neg (by omega), L.hr.carry_outside (.inl (by omega)), hl, hp, hn.carry_at ps1 pc ps2 hlen]

theorem carried_additional {p : Bytes} (L : C03.Layout p) (qc : Bytes) (pa pn pr : List Bytes)
    (l1 : List RecPos) (r : RecPos) (l2 : List RecPos) (ps1 : List Bytes) (pc : Bytes) (ps2 : List Bytes)
    (hl : L.additional = l1 ++ r :: l2) (hp : pr = ps1 ++ pc :: ps2) (hlen : l1.length = ps1.length) :
    carried p L r.off qc pa pn pr =
      some (12 + qc.length + pa.flatten.length + pn.flatten.length + ps1.flatten.length) := by
  obtain ⟨_, _, _, _, _, _, mr⟩ := layout_offsets L
  have hr := mr r (hl ▸ List.mem_append_right _ List.mem_cons_self)
  have ha := L.hr
  rw [hl] at ha
  simp only [carried]
  rw [if_neg (by omega), hl, hp, ha.carry_at ps1 pc ps2 hlen]

/-- C05: decompression succeeds on every accepted packet, and its result is the canonical output -/
theorem decompress_ok {p : Bytes} {v : View} (h : parse p = .ok v) :
    ∃ (L : C03.Layout p) (o : Output p L), uncompress p = .ok o.bytes := by
  obtain ⟨L, qc, pa, pn, pr, hq, ha, hn, hr, hu⟩ := uncompress_canonical h 12
  refine ⟨L, ⟨qc, pa, pn, pr, hq, ha, hn, hr⟩, ?_⟩
  unfold uncompress
  simp only [DNS_HEADER_SIZE]
  rw [hu, carried_question]
  rfl

/-- C05: the result is accepted -/
theorem decompressed_accepted {p : Bytes} {v : View} (h : parse p = .ok v) {u : Bytes} (hu : uncompress p = .ok u) :
    ∃ v', parse u = .ok v' := by
  obtain ⟨L, o, ho⟩ := decompress_ok h
  obtain rfl : o.bytes = u := Res.ok.inj (ho.symm.trans hu)
  exact C02.wf_accepted _ (output_layout h o).1

theorem layout_unique {u : Bytes} (L1 L2 : C03.Layout u) :
    L1.qe = L2.qe ∧ L1.answers = L2.answers ∧ L1.authority = L2.authority ∧ L1.additional = L2.additional :=
  have ⟨hq, ea, en, er, _, _⟩ := C03.Layout.unique L1 L2
  ⟨hq, ea, en, er⟩

theorem Output.unique {p : Bytes} {L1 L2 : C03.Layout p} (o1 : Output p L1) (o2 : Output p L2) :
    o1.qc = o2.qc ∧ o1.pa = o2.pa ∧ o1.pn = o2.pn ∧ o1.pr = o2.pr := by
  obtain ⟨eq, ea, en, er⟩ := layout_unique L1 L2
  exact ⟨(eq ▸ o1.hq).functional o2.hq, (ea ▸ o1.ha).functional o2.ha, (en ▸ o1.hn).functional o2.hn,
    (er ▸ o1.hr).functional o2.hr⟩

/-- C05: a second decompression changes nothing -/
theorem decompress_fixed_point {p : Bytes} {v : View} (h : parse p = .ok v) {u : Bytes} (hu : uncompress p = .ok u) :
    uncompress u = .ok u := by
  obtain ⟨L, o, ho⟩ := decompress_ok h
  obtain rfl : o.bytes = u := Res.ok.inj (ho.symm.trans hu)
  -- the pieces of the output are canonical pieces of the output itself
  obtain ⟨hwf, L', hq', ha', hn', hr', _⟩ := output_layout h o
  obtain ⟨v', h'⟩ := C02.wf_accepted _ hwf
  obtain ⟨L'', o'', ho''⟩ := decompress_ok h'
  obtain ⟨e1, e2, e3, e4⟩ := o''.unique ⟨o.qc, o.pa, o.pn, o.pr, hq', ha', hn', hr'⟩
  have hl : 12 ≤ p.length := (C02.accepted_wf p v h).1
  rw [ho'', Output.bytes, e1, e2, e3, e4]
  simp only [Output.bytes, List.append_assoc]
  rw [List.take_append_of_le_length (Nat.le_of_eq (List.length_take_of_le hl).symm), List.take_take, Nat.min_self]

/-- for *any* layout of the input and its canonical pieces: they are unique -/
theorem uncompress_any {p : Bytes} {v : View} (h : parse p = .ok v) (ref : Nat) (L : C03.Layout p) (o : Output p L) :
    uncompressWithPreviousOffset p ref =
      match carried p L ref o.qc o.pa o.pn o.pr with
      | some n => .ok (o.bytes, n)
      | none => .panic := by
  obtain ⟨qc, pa, pn, pr, hq, ha, hn, hr, hu⟩ := uncompress_at h ref L
  rw [hu, hq.functional o.hq, ha.functional o.ha, hn.functional o.hn, hr.functional o.hr]
  rfl

/-- C05: record boundaries are carried across: the start of the `i`-th answer / authority / additional record of the
input goes to the start of the `i`-th such record of the output, the question to the question, the end to the end. -/
theorem boundaries {p : Bytes} {v : View} (h : parse p = .ok v) (L : C03.Layout p) (o : Output p L) :
    uncompressWithPreviousOffset p 12 = .ok (o.bytes, 12) ∧
    uncompressWithPreviousOffset p p.length = .ok (o.bytes, o.bytes.length) ∧
    (∀ l1 r l2 ps1 pc ps2, L.answers = l1 ++ r :: l2 → o.pa = ps1 ++ pc :: ps2 → l1.length = ps1.length →
      uncompressWithPreviousOffset p r.off = .ok (o.bytes, 12 + o.qc.length + ps1.flatten.length)) ∧
    (∀ l1 r l2 ps1 pc ps2, L.authority = l1 ++ r :: l2 → o.pn = ps1 ++ pc :: ps2 → l1.length = ps1.length →
      uncompressWithPreviousOffset p r.off = .ok (o.bytes, 12 + o.qc.length + o.pa.flatten.length + ps1.flatten.length)) ∧
    (∀ l1 r l2 ps1 pc ps2, L.additional = l1 ++ r :: l2 → o.pr = ps1 ++ pc :: ps2 → l1.length = ps1.length →
      uncompressWithPreviousOffset p r.off =
        .ok (o.bytes, 12 + o.qc.length + o.pa.flatten.length + o.pn.flatten.length + ps1.flatten.length)) := by
  have hl : 12 ≤ p.length := (C02.accepted_wf p v h).1
  have hH : (p.take 12).length = 12 := by simp; omega
  refine ⟨?_, ?_, ?_, ?_, ?_⟩
  · rw [uncompress_any h 12 L o, carried_question]
  · rw [uncompress_any h p.length L o, carried_end]
    simp only [Output.bytes, List.length_append, hH]
  · intro l1 r l2 ps1 pc ps2 hl hp hlen
    rw [uncompress_any h r.off L o, carried_answer L _ _ _ _ l1 r l2 ps1 pc ps2 hl hp hlen]
  · intro l1 r l2 ps1 pc ps2 hl hp hlen
    rw [uncompress_any h r.off L o, carried_authority L _ _ _ _ l1 r l2 ps1 pc ps2 hl hp hlen]
  · intro l1 r l2 ps1 pc ps2 hl hp hlen
    rw [uncompress_any h r.off L o, carried_additional L _ _ _ _ l1 r l2 ps1 pc ps2 hl hp hlen]

/-! non-vacuity: the sample packet of C02 (a pointer in the answer's owner name, OPT) decompresses
to a longer packet, which is a fixed point (kernel evaluation of the model) -/
def okExpanded : Bytes :=
  [0, 7, 128, 0, 0, 1, 0, 1, 0, 0, 0, 1, 1, 97, 0, 0, 1, 0, 1, 1, 97, 0, 0, 1, 0, 1, 0, 0, 0, 9, 0, 4, 1, 2, 3, 4, 0, 0,
   41, 4, 208, 0, 0, 0, 0, 0, 6, 0, 10, 0, 2, 7, 7]
example : uncompress C02.okPacket = .ok okExpanded := by decide +kernel
example : uncompress okExpanded = .ok okExpanded := by decide +kernel

/-! The name readers decompression is built from (`Compress::raw_name_len`, `raw_name_len_after_decompression`,
`copy_uncompressed_name`, `SuffixDict::raw_names_eq_ignore_case`) are translated from /repo/src/compress.rs by
rs2lean.py on every run (`Generated/TrReader.lean`) and proved equal to the model functions (`Tie/Reader.lean`). -/
theorem source_reader_tie (p pre n1 n2 : Bytes) (off : Nat) :
    Tr.Reader.raw_name_len p = rawNameLen p ∧
    Tr.Reader.raw_name_len_after_decompression p off = rawNameLenAfterDecompression p off ∧
    Tr.Reader.copy_uncompressed_name pre p off
      = (copyUncompressedName p off >>= fun r => Res.ok ((r.1.length, r.2), pre ++ r.1)) ∧
    Tr.Reader.raw_names_eq_ignore_case n1 n2 = .ok (rawNamesEqIgnoreCase n1 n2) :=
  Tie.reader_tie p pre n1 n2 off

end Dns.C05
