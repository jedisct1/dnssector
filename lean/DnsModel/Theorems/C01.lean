/-
  C01 — Parsing untrusted bytes is total: a result or an error, never a crash or hang.
-/
import DnsModel.Lemmas.SectorTotal
import DnsModel.Tie.Name
import DnsModel.Tie.Sector
import DnsModel.Tie.Parse
namespace Dns.C01
open Dns Res Sector

/-- C01.  For every byte string, `parse` returns `Ok(view)` or `Err(kind)`: no reachable panic (out-of-range index,
underflowing subtraction, failed assertion) and no loop that runs out of fuel.  The model's `parse` does not
return bytes: the packet the caller gets back is the argument `p` itself. -/
theorem parse_total (p : Bytes) : (∃ v, parse p = .ok v) ∨ (∃ e, parse p = .err e) :=
  returns_cases (parse_returns p)

theorem checkCompressedName_total (p : Bytes) (off : Nat) :
    (∃ n, checkCompressedName p off = .ok n) ∨ (∃ e, checkCompressedName p off = .err e) :=
  (Dns.checkCompressedName_total p off).symm

theorem checkUncompressedName_total (p : Bytes) (off : Nat) :
    (∃ n, checkUncompressedName p off = .ok n) ∨ (∃ e, checkUncompressedName p off = .err e) :=
  returns_cases (checkUncompressedName_returns p off)

theorem checkCompressedName_in_bounds (p : Bytes) (off e : Nat)
    (h : checkCompressedName p off = .ok e) : off < e ∧ e ≤ p.length :=
  ⟨checkCompressedName_ok_gt h, checkCompressedName_ok_le h⟩

/-- the public cursor primitives of `DNSSector` -/
inductive CursorOp
  | setOffset (n : Nat) | incrementOffset (n : Nat) | rrRdlen | ednsRrRdlen

/-- one public call: new cursor state and what the call returned -/
def cursorStep (p : Bytes) (s : Sector) : CursorOp → Sector × Res Nat
  | .setOffset n => match Sector.setOffset p s n with
      | .ok (s', old) => (s', .ok old) | .err e => (s, .err e) | .panic => (s, .panic) | .diverge => (s, .diverge)
  | .incrementOffset n => match Sector.incrementOffset p s n with
      | .ok (s', old) => (s', .ok old) | .err e => (s, .err e) | .panic => (s, .panic) | .diverge => (s, .diverge)
  | .rrRdlen => (s, Sector.rrRdlen p s)
  | .ednsRrRdlen => (s, Sector.ednsRrRdlen p s)

def CursorInv (p : Bytes) (s : Sector) : Prop := s.offset ≤ p.length ∧ s.ednsEnd = none

/-- how `cursorStep` reports a call that moves the cursor -/
private theorem moved {p : Bytes} {s : Sector} {x : Res (Sector × Nat)} (h : CursorInv p s)
    (hx : x.Spec fun r => CursorInv p r.1) :
    let r : Sector × Res Nat := match (generalizing := false) x with
      | .ok (s', old) => (s', .ok old) | .err e => (s, .err e) | .panic => (s, .panic) | .diverge => (s, .diverge)
    r.2.Returns ∧ CursorInv p r.1 := by
  cases x with
  | ok r => exact ⟨returns_ok _, hx.2 r rfl⟩
  | err e => exact ⟨returns_err _, h⟩
  | panic => exact absurd rfl hx.1.1
  | diverge => exact absurd rfl hx.1.2

theorem cursorStep_total (p : Bytes) (s : Sector) (op : CursorOp) (h : CursorInv p s) :
    (cursorStep p s op).2.Returns ∧ CursorInv p (cursorStep p s op).1 := by
  cases op with
  | setOffset n =>
    exact moved h ((setOffset_spec p s n).mono fun r hr => by rw [hr.1]; exact ⟨Nat.le_of_lt hr.2, h.2⟩)
  | incrementOffset n =>
    exact moved h ((incrementOffset_spec h.1 n).mono fun r hr => by rw [hr.1]; exact ⟨hr.2, h.2⟩)
  | rrRdlen => exact ⟨(be16Load_spec h.1 _).1, h⟩
  | ednsRrRdlen =>
    refine ⟨?_, h⟩
    simp [cursorStep, Sector.ednsRrRdlen, Sector.ednsBe16Load, Sector.ednsEnsureRemainingLen,
      Sector.ednsRemainingLen, h.2, failIf, returns_err]

/-- state after a whole script of public calls -/
def cursorRun (p : Bytes) : List CursorOp → Sector → Sector
  | [], s => s
  | op :: ops, s => cursorRun p ops (cursorStep p s op).1

/-- Any finite sequence of public cursor calls, with arbitrary offsets and increments, starting from
`DNSSector::new(p)`: every call returns `Ok` or `Err`, and the cursor never leaves the buffer. -/
theorem cursor_total (p : Bytes) (ops : List CursorOp) (op : CursorOp) :
    (cursorStep p (cursorRun p ops Sector.new) op).2.Returns ∧
      (cursorRun p ops Sector.new).offset ≤ p.length := by
  have key : ∀ (ops : List CursorOp) (s : Sector), CursorInv p s → CursorInv p (cursorRun p ops s) := by
    intro ops
    induction ops with
    | nil => intro s h; exact h
    | cons o os ih => intro s h; exact ih _ (cursorStep_total p s o h).2
  have inv := key ops Sector.new ⟨Nat.zero_le _, rfl⟩
  exact ⟨(cursorStep_total p _ op inv).1, inv.1⟩

/- Non-vacuity: both outcomes occur, and every error kind of the validator is reachable. -/
example : (parse [0,0,0x80,0, 0,1, 0,0, 0,0, 0,0, 1,97,0, 0,1, 0,1]).isOk = true := by decide
example : parse [] = .err .packetTooSmall := by decide
example : parse [0,0,0,0, 0,0, 0,0, 0,0, 0,0] = .err .invalidPacket := by decide
example : parse [0,0,0,0, 0,1, 0,0, 0,0, 0,0] = .err .internalError := by decide
example : parse [0,0,0,0, 0,1, 0,0, 0,0, 0,0, 0xc0,12, 0,1, 0,1] = .err .invalidName := by decide
example : parse [0,0,0,0, 0,1, 0,0, 0,0, 0,0, 1,97,0, 0,1, 0,3] = .err .unsupportedClass := by decide

/- The same statements about `Tr.Name.*` and `Tr.Sector.*` (Generated/TrName.lean, Generated/TrSector.lean), which
rs2lean.py writes from /repo/src/compress.rs and /repo/src/dns_sector.rs on every run; `Tie/Name.lean` and
`Tie/Sector.lean` prove each translated function equal to the model function used above. -/

theorem source_check_compressed_name_total (p : Bytes) (off : Nat) :
    (∃ n, Tr.Name.check_compressed_name p off = .ok n) ∨ (∃ e, Tr.Name.check_compressed_name p off = .err e) := by
  rw [Tie.check_compressed_name_eq]; exact checkCompressedName_total p off

theorem source_check_uncompressed_name_total (p : Bytes) (off : Nat) :
    (∃ n, Tr.Name.check_uncompressed_name p off = .ok n) ∨ (∃ e, Tr.Name.check_uncompressed_name p off = .err e) := by
  rw [Tie.check_uncompressed_name_eq]; exact checkUncompressedName_total p off

theorem source_check_compressed_name_in_bounds (p : Bytes) (off e : Nat)
    (h : Tr.Name.check_compressed_name p off = .ok e) : off < e ∧ e ≤ p.length := by
  rw [Tie.check_compressed_name_eq] at h; exact checkCompressedName_in_bounds p off e h

/-- the four public cursor primitives of the source are the model's, which `cursorStep` runs -/
theorem source_cursor_tie (p : Bytes) (s : Sector) (n : Nat) :
    Tr.Sector.set_offset p s.offset n = (Sector.setOffset p s n >>= fun r => Res.ok (r.2, r.1.offset)) ∧
    Tr.Sector.increment_offset p s.offset n = (Sector.incrementOffset p s n >>= fun r => Res.ok (r.2, r.1.offset)) ∧
    Tr.Sector.rr_rdlen p s.offset = Sector.rrRdlen p s ∧
    Tr.Sector.edns_rr_rdlen p s.offset s.ednsEnd = Sector.ednsRrRdlen p s :=
  ⟨Tie.set_offset_eq p s n, Tie.increment_offset_eq p s n, Tie.rr_rdlen_eq p s, Tie.edns_rr_rdlen_eq p s⟩

/-- and the loaders `parse()` is built from -/
theorem source_loader_tie (p : Bytes) (s : Sector) (n : Nat) :
    Tr.Sector.ensure_remaining_len p s.offset n = Sector.ensureRemainingLen p s n ∧
    Tr.Sector.u8_load p s.offset n = Sector.u8Load p s n ∧ Tr.Sector.be16_load p s.offset n = Sector.be16Load p s n ∧
    Tr.Sector.rr_type p s.offset = Sector.rrType p s ∧ Tr.Sector.rr_class p s.offset = Sector.rrClass p s ∧
    Tr.Sector.qdcount p = be16 p 4 ∧ Tr.Sector.ancount p = be16 p 6 ∧ Tr.Sector.nscount p = be16 p 8 ∧
    Tr.Sector.arcount p = be16 p 10 ∧
    Tr.Sector.is_response p = (be16 p DNS_FLAGS_OFFSET >>= fun f => Res.ok (f &&& DNS_FLAG_QR == DNS_FLAG_QR)) :=
  ⟨Tie.ensure_remaining_len_eq p s n, Tie.u8_load_eq p s n, Tie.be16_load_eq p s n, Tie.rr_type_eq p s,
   Tie.rr_class_eq p s, Tie.s_qdcount_eq p, Tie.s_ancount_eq p, Tie.s_nscount_eq p, Tie.s_arcount_eq p,
   Tie.s_is_response_eq p⟩

/-- C01 for the source text.  `Tr.Sector.new` / `Tr.Sector.parse` translate `DNSSector::new` and `DNSSector::parse`
(with everything `parse` calls).  `parse`, started on the state `new` builds, returns the tuple of `ParsedPacket`'s
fields — whose first component is the input itself, `Some(packet)` — or an error; never a panic (out-of-range
index, underflowing subtraction, overflowing `edns_count += 1`, failed assertion), never out of fuel. -/
theorem source_parse_total (p : Bytes) :
    Tr.Sector.new p = .ok (p, 0, none, none, 0, none, none, none, 512) ∧
    ((∃ v, Tr.Sector.parse p 0 none none 0 none none none 512 = .ok (Tie.viewTup p v) ∧ (Tie.viewTup p v).1 = some p) ∨
     (∃ e, Tr.Sector.parse p 0 none none 0 none none none 512 = .err e)) := by
  refine ⟨by simpa [Tie.tup, Sector.new] using Tie.new_eq p, ?_⟩
  rw [Tie.parse_eq]
  rcases parse_total p with ⟨v, hv⟩ | ⟨e, he⟩
  · left; exact ⟨v, by simp [hv], rfl⟩
  · right; exact ⟨e, by simp [he]⟩

example : Tr.Name.check_compressed_name [3, 119, 119, 119, 0, 0xc0, 0] 5 = .ok 7 := by decide
example : Tr.Name.check_uncompressed_name [3, 119, 119, 119, 0, 0xc0, 0] 5 = .err .invalidName := by decide

end Dns.C01
