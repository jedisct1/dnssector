/-
  C13 — Record text synthesises to the right wire record; bad text is an error: synthesis always returns
  (`synth_total`), succeeds exactly on the texts of the grammar of Spec/RecordText.lean (`grammar_iff`), and what
  it returns is a record of the acceptance policy (`wellformed`) that can be inserted into a parsed packet
  (`insert_accepted`).
-/
import DnsModel.Lemmas.SynthSoundGrammar
import DnsModel.Tie.Text
import DnsModel.Lemmas.InsertRec
namespace Dns.C13
open Dns Res

theorem rrNew_returns (h : RRHeader) (rd : Bytes) : (rrNew h rd).Returns := by
  unfold rrNew
  apply bind_returns (failIf_returns _ _)
  intro _ _
  apply bind_returns (copyRaw_returns _ _ _)
  intro _ _
  exact returns_ok _

theorem rdataP_returns (h : RRHeader) (i : Bytes) (r : Res Bytes) (hr : rdataP h i = some r) : r.Returns := by
  have name : ∀ n, (rawNameFromStr n none).Returns := fun n => copyRaw_returns _ _ _
  cases rdataP_iff.1 hr with
  | a => exact rrNew_returns _ _
  | aaaa => exact rrNew_returns _ _
  | name => exact bind_returns (name _) fun _ _ => rrNew_returns _ _
  | txt =>
    rw [buildTxt_eq]
    split
    · exact returns_err _
    · exact rrNew_returns _ _
  | mx =>
    rw [buildMx_eq]
    exact bind_returns (name _) fun _ _ => rrNew_returns _ _
  | soa =>
    rw [buildSoa_eq]
    exact bind_returns (name _) fun _ _ => bind_returns (name _) fun _ _ => rrNew_returns _ _
  | ds => exact rrNew_returns _ _

/-- **C13, totality**: no byte string makes synthesis panic or loop -/
theorem synth_total (s : Bytes) : (∃ r, synth s = .ok r) ∨ (∃ e, synth s = .err e) := by
  apply returns_cases
  unfold synth
  split
  · exact returns_err _
  · split
    · exact returns_err _
    · rename_i h i r hr
      exact rdataP_returns _ _ _ hr

/-- the host-name conversion never panics either (it is also reachable from the C table) -/
theorem rawNameFromStr_total (n : Bytes) (z : Option Bytes) :
    (∃ r, rawNameFromStr n z = .ok r) ∨ (∃ e, rawNameFromStr n z = .err e) :=
  returns_cases (copyRaw_returns _ _ _)

/-- **C13**: a text synthesises to `rr` exactly when it is a text of the grammar and `rr` is the RFC 1035 wire
record it stands for (owner labels, type, class IN, TTL, data length, data) -/
theorem grammar_iff (t rr : Bytes) : synth t = .ok rr ↔ RecordText t rr := ⟨synth_grammar, synth_complete⟩

theorem excluded_is_error (t : Bytes) (h : ¬ ∃ rr, RecordText t rr) : ∃ e, synth t = .err e := by
  rcases synth_total t with ⟨r, hr⟩ | he
  · exact absurd ⟨r, (grammar_iff t r).1 hr⟩ h
  · exact he

/-- whatever is returned is, placed anywhere in a packet and in any section, a record of the acceptance policy
(not an OPT; class IN by `grammar_iff`) -/
theorem wellformed {t rr : Bytes} (h : synth t = .ok rr) (sec : Section) (b : Bool) (pre post : Bytes) :
    ∃ ne', RRAtPos (pre ++ rr ++ post) sec ⟨pre.length, ne', pre.length + rr.length⟩ b b ∧
      get16 (pre ++ rr ++ post) ne' ≠ 41 := by
  obtain ⟨owner, f8, rd, hgo, hf8, hlt, h41, hrd, hrr⟩ := synth_inRecord h
  obtain ⟨hpos, hcan, hty⟩ := piece_standalone owner hgo f8 rd hf8 hlt h41 hrd sec b
  rw [← hrr] at hpos hcan hty
  obtain ⟨ne', hr', _, hty'⟩ := canon_placed hpos hcan pre post
  exact ⟨ne', hr', by rw [hty', hty]; exact h41⟩

theorem synth_piece {t rr : Bytes} (h : synth t = .ok rr) (sec : Section) (b : Bool) : PieceOK sec rr b b := by
  obtain ⟨owner, f8, rd, hgo, hf8, hlt, h41, hrd, hrr⟩ := synth_inRecord h
  obtain ⟨hpos, hcan, _⟩ := piece_standalone owner hgo f8 rd hf8 hlt h41 hrd sec b
  rw [← hrr] at hpos hcan
  exact ⟨rr, _, hpos, hcan⟩

/-- inserting a synthesised record into a parsed packet (`hqr`: a response, for answer and authority; within the
8192-byte and 65535-record limits) succeeds and leaves an accepted packet -/
theorem insert_accepted {p : Bytes} {v : View} (h : parse p = .ok v) {t rr : Bytes} (hs : synth t = .ok rr) (sect : Section)
    (hsect : sect = .answer ∨ sect = .nameServers ∨ sect = .additional)
    (hqr : sect ≠ .additional → get16 p 2 / 32768 % 2 = 1)
    (hsize : ∀ u, uncompress p = .ok u → u.length + rr.length ≤ 8192)
    (hcount : get16 p 6 < 65535 ∧ get16 p 8 < 65535 ∧ get16 p 10 < 65535) :
    ∃ pp', insertRR (PP.ofView p v) sect rr = .ok (pp', none) ∧ WF pp'.packet := by
  obtain ⟨pp2, L, o, P, hA, hN, hR, hH, hpk, hstep⟩ := insert_parsed_step h sect rr
  have hl : 12 ≤ p.length := (C02.accepted_wf p v h).1
  have hun := uncompress_bytes h o
  have hsz : pp2.packet.length + rr.length ≤ 8192 := by rw [hpk]; exact hsize _ hun
  have hflag : get16 P.hdr 2 = get16 p 2 := by
    rw [hH]
    have hag : Agree p (p.take 12) 0 0 12 := by intro i hi; simp [List.getElem?_take, hi]
    have := hag.get16 (i := 2) (by omega)
    simpa using this
  rw [hstep]
  rcases hsect with rfl | rfl | rfl
  · obtain ⟨pp', P', hrun, _⟩ := P.insert_at .answer rfl rr (synth_piece hs _ _) hsz
      (by show P.A.length < _; rw [hA, o.ha.length, L.na]; exact hcount.1) (fun _ => by rw [hflag]; exact hqr (by decide))
    exact ⟨pp', hrun, P'.wf⟩
  · obtain ⟨pp', P', hrun, _⟩ := P.insert_at .nameServers rfl rr (synth_piece hs _ _) hsz
      (by show P.N.length < _; rw [hN, o.hn.length, L.nn]; exact hcount.2.1) (fun _ => by rw [hflag]; exact hqr (by decide))
    exact ⟨pp', hrun, P'.wf⟩
  · obtain ⟨pp', P', hrun, _⟩ := P.insert_at .additional rfl rr (synth_piece hs _ _) hsz
      (by show P.R.length < _; rw [hR, o.hr.length, L.nr]; exact hcount.2.2) (fun h => absurd rfl h)
    exact ⟨pp', hrun, P'.wf⟩

/-! non-vacuity: "a 60 IN A 192.0.2.1" synthesises; "x 1 IN DS 1 1 1 ABC" (odd number of digest digits) is an error -/
example : synth [97, 32, 54, 48, 32, 73, 78, 32, 65, 32, 49, 57, 50, 46, 48, 46, 50, 46, 49] = .ok [1,97,0, 0,1, 0,1, 0,0,0,60, 0,4, 192,0,2,1] := by decide
example : synth [120, 32, 49, 32, 73, 78, 32, 68, 83, 32, 49, 32, 49, 32, 49, 32, 65, 66, 67] = .err .parseError := by decide

example : RecordText [97, 32, 54, 48, 32, 73, 78, 32, 65, 32, 49, 57, 50, 46, 48, 46, 50, 46, 49] [1,97,0, 0,1, 0,1, 0,0,0,60, 0,4, 192,0,2,1] :=
  (grammar_iff _ _).1 (by decide)

/-! Tie to the source text: `copy_raw_name_from_str` is re-translated from /repo/src/synth/gen.rs by rs2lean.py
on every run (`Generated/TrText.lean`) and proved equal to the model function used above (`Tie/Text.lean`). -/
theorem source_from_text (raw name : Bytes) (zone : Option Bytes) :
    Tr.Text.copy_raw_name_from_str raw name zone = copyRawNameFromStr raw name zone :=
  Tie.copy_raw_name_from_str_eq raw name zone

end Dns.C13
