/-
  C14 — Host names convert between text and wire form without loss: what `raw_name_from_str` accepts and what it
  returns (`from_text_sound`, `from_text_complete`, `rejects_*`); the result is a well-formed pointer-free name
  whose text form, as the record accessors compute it, is the input without its final dot (`wire_wellformed`,
  `reads_back`).
-/
import DnsModel.Lemmas.NameText
import DnsModel.Tie.Text
import DnsModel.Lemmas.Question
namespace Dns.C14
open Dns Res

theorem fromStr_eq_scan (name : Bytes) (zone : Option Bytes) (hname : name ≠ [46]) :
    rawNameFromStr name zone =
      if name.length > 253 then .err .invalidName
      else match scan name [] [] with
        | none => .err .invalidName
        | some (o, cur) =>
          if (finishSpec o cur zone).length > 253 then .err .invalidName else .ok (finishSpec o cur zone) :=
  copyRaw_eq_scan [] name zone hname

theorem fromStr_dot (zone : Option Bytes) : rawNameFromStr [46] zone = .ok [0] := copyRaw_dot [] zone

/-- **C14, soundness**: an accepted text is `l₁.l₂.….lₖ` (optionally with a final dot; or the single dot or the
empty text, giving the root), every `lᵢ` non-empty, at most 62 bytes, each dot-free and ≤ 128; the result encodes
exactly those labels, followed by the root byte (final dot or root) or by the zone, and is at most 253 bytes long -/
theorem from_text_sound {name out : Bytes} {zone : Option Bytes} (h : rawNameFromStr name zone = .ok out) :
    name.length ≤ 253 ∧ out.length ≤ 253 ∧
      ((name = [46] ∧ out = [0]) ∨
       ∃ done cur, name = dotted done ++ cur ∧ (∀ l ∈ done, TextLabel l) ∧ TextRun cur ∧
         out = encLabels (labelsOf done cur) ++ (if cur = [] then [0] else zone.getD [0])) := by
  by_cases hname : name = [46]
  · subst hname
    rw [fromStr_dot] at h
    simp at h
    subst h
    exact ⟨by simp, by simp, Or.inl ⟨rfl, rfl⟩⟩
  · rw [fromStr_eq_scan name zone hname] at h
    by_cases hl : name.length > 253
    · simp [hl] at h
    simp only [hl, if_false] at h
    cases hs : scan name [] [] with
    | none => rw [hs] at h; simp at h
    | some x =>
      obtain ⟨o, cur⟩ := x
      rw [hs] at h
      simp only at h
      by_cases hout : (finishSpec o cur zone).length > 253
      · simp [hout] at h
      simp only [hout, if_false, ok.injEq] at h
      obtain ⟨done, h1, h2, h3, h4⟩ := scan_sound name [] [] o cur ⟨by simp, by simp⟩ hs
      simp only [List.nil_append] at h1 h4
      subst h4
      refine ⟨by omega, by rw [← h]; omega, Or.inr ⟨done, cur, h1, h2, h3, ?_⟩⟩
      rw [← h, finishSpec_labels]

/-- **C14, completeness**: every such text whose result fits 253 bytes is accepted (in particular every
letter-digit-hyphen-underscore name with labels of at most 62 bytes, `textLabel_of_ldh`) -/
theorem from_text_complete (done : List Bytes) (cur : Bytes) (zone : Option Bytes)
    (hd : ∀ l ∈ done, TextLabel l) (hc : TextRun cur)
    (hout : (encLabels (labelsOf done cur) ++ (if cur = [] then [0] else zone.getD [0])).length ≤ 253) :
    rawNameFromStr (dotted done ++ cur) zone =
      .ok (encLabels (labelsOf done cur) ++ (if cur = [] then [0] else zone.getD [0])) := by
  have hl : (dotted done ++ cur).length ≤ 253 := Nat.le_trans (text_le_wire done cur _) hout
  have hs := scan_dotted done cur [] hd hc
  -- not the lone dot: the scan accepts the text and refuses `[46]`
  have hname : dotted done ++ cur ≠ [46] := fun e => by rw [e] at hs; exact nomatch hs
  rw [fromStr_eq_scan _ zone hname]
  simp only [List.nil_append] at hs
  have hl' : ¬ ((dotted done ++ cur).length > 253) := by omega
  simp only [hl', if_false, hs, finishSpec_labels]
  have : ¬ ((encLabels (labelsOf done cur) ++ (if cur = [] then [0] else zone.getD [0])).length > 253) := by omega
  simp only [this, if_false]

/-- letter, digit, hyphen, underscore -/
def ldh (c : UInt8) : Bool :=
  (97 ≤ c.toNat && c.toNat ≤ 122) || (65 ≤ c.toNat && c.toNat ≤ 90) || (48 ≤ c.toNat && c.toNat ≤ 57) || c == 45 || c == 95

theorem textLabel_of_ldh {l : Bytes} (h1 : l ≠ []) (h2 : l.length ≤ 62) (h3 : ∀ c ∈ l, ldh c = true) : TextLabel l := by
  refine ⟨h1, h2, ?_⟩
  intro c hc
  have := h3 c hc
  have hlt := c.toNat_lt
  constructor
  · intro h; subst h; revert this; decide
  · unfold ldh at this
    simp at this
    rcases this with ((((h | h) | h) | h) | h)
    · omega
    · omega
    · omega
    · subst h; decide
    · subst h; decide

/-- `hlen`: a text of two or more bytes is not the single dot -/
theorem rejects_of_scan {name : Bytes} (zone : Option Bytes) (hlen : 2 ≤ name.length) (hs : scan name [] [] = none) :
    rawNameFromStr name zone = .err .invalidName := by
  rw [fromStr_eq_scan name zone (by rintro rfl; exact absurd hlen (by decide)), hs]
  split <;> rfl

theorem rejects_long_text (name : Bytes) (zone : Option Bytes) (h : name.length > 253) :
    rawNameFromStr name zone = .err .invalidName := by
  rw [fromStr_eq_scan name zone (by rintro rfl; exact absurd h (by decide)), if_pos h]

theorem rejects_empty_label (a b : Bytes) (zone : Option Bytes) :
    rawNameFromStr (a ++ 46 :: 46 :: b) zone = .err .invalidName :=
  rejects_of_scan zone (by simp; omega) (scan_reject_empty a b [] [])

theorem rejects_leading_dot (b : Bytes) (zone : Option Bytes) (hb : b ≠ []) :
    rawNameFromStr (46 :: b) zone = .err .invalidName := by
  cases b with
  | nil => exact absurd rfl hb
  | cons c b => exact rejects_of_scan zone (by simp) (by simp [scan])

theorem rejects_long_label (a l b : Bytes) (zone : Option Bytes) (hl : l.length ≥ 63) (hd : ∀ c ∈ l, c ≠ 46) :
    rawNameFromStr (a ++ l ++ b) zone = .err .invalidName :=
  rejects_of_scan zone (by simp; omega) (scan_reject_long a l b [] [] hl hd)

theorem never_longer (name out : Bytes) (zone : Option Bytes) (h : rawNameFromStr name zone = .ok out) :
    out.length ≤ 253 := (from_text_sound h).2.1

/-- without a zone (or with a final dot) the result is a pointer-free name the validator's name relation accepts
with exactly the text's labels, provided they avoid the characters the validator forbids (`hg`: control
characters, DEL, backslash) -/
theorem wire_wellformed {done : List Bytes} {cur : Bytes} (hd : ∀ l ∈ done, TextLabel l) (hc : TextRun cur)
    (hlen : (encLabels (labelsOf done cur) ++ [0]).length ≤ 253)
    (hg : ∀ l ∈ labelsOf done cur, goodChars l = true) :
    ValidName (encLabels (labelsOf done cur) ++ [0]) 0 (labelsOf done cur) (labSum (labelsOf done cur) + 1) ∧
      ∀ l ∈ labelsOf done cur, 1 ≤ l.length ∧ l.length ≤ 63 := by
  have ht := labelsOf_text hd hc
  have hok : ∀ l ∈ labelsOf done cur, okLabel l := fun l hl => okLabel_of_text (ht l hl)
  refine ⟨validName_of_enc hok ?_ hg, hok⟩
  rw [wireLen_eq]
  simp [encLabels_length] at hlen
  omega

/-- the name accessor's text for the result is the input without its final dot -/
theorem reads_back {done : List Bytes} {cur : Bytes} (hd : ∀ l ∈ done, TextLabel l) (hc : TextRun cur)
    (hlen : (encLabels (labelsOf done cur) ++ [0]).length ≤ 253)
    (hg : ∀ l ∈ labelsOf done cur, goodChars l = true) :
    rawNameToStr (encLabels (labelsOf done cur) ++ [0]) 0 =
      .ok (if cur = [] then (dotted done).dropLast else dotted done ++ cur) := by
  rw [rawNameToStr_valid (wire_wellformed hd hc hlen hg).1, joinText_labelsOf hd hc]

/-- with a zone whose labels are `zs`, the result is the encoding of `labels ++ zs` -/
theorem with_zone {done : List Bytes} {cur : Bytes} (zs : List Bytes) (hcur : cur ≠ []) :
    encLabels (labelsOf done cur) ++ (if cur = [] then [0] else (some (encLabels zs ++ [0])).getD [0]) =
      encLabels (labelsOf done cur ++ zs) ++ [0] := by
  simp [hcur, encLabels_append]

/-! non-vacuity: "www.Ex.c" with and without final dot, with a zone -/
example : rawNameFromStr [119,119,119,46,69,120,46,99] none = .ok [3,119,119,119,2,69,120,1,99,0] := by decide
example : rawNameFromStr [119,119,119,46,69,120,46,99,46] (some [1,122,0]) = .ok [3,119,119,119,2,69,120,1,99,0] := by decide
example : rawNameFromStr [119,119,119] (some [1,122,0]) = .ok [3,119,119,119,1,122,0] := by decide
example : rawNameFromStr [119,46,46,119] none = .err .invalidName := by decide

/-! Tie to the source text: `copy_raw_name_from_str` is re-translated from /repo/src/synth/gen.rs by rs2lean.py
on every run (`Generated/TrText.lean`) and proved equal to the model function used above (`Tie/Text.lean`). -/
theorem source_from_text (raw name : Bytes) (zone : Option Bytes) :
    Tr.Text.copy_raw_name_from_str raw name zone = copyRawNameFromStr raw name zone :=
  Tie.copy_raw_name_from_str_eq raw name zone

end Dns.C14
