/-
  C02 — The parser accepts exactly the packets that are well-formed under its policy.
  `WF` (Spec/Wire.lean) states the policy on the bytes, independently of the validator's control flow: names by
  `Labels`/`NameAt` (pointers strictly backward from the start of the segment they are in, at most 16, never to a
  root label; labels ≤ 63, total ≤ 255, no control characters, dots or backslashes), DNAME targets by `PlainName`,
  per-type data by `RDataOK`, OPT by `OptionsTile`, sections by `RRs`.
-/
import DnsModel.Lemmas.ParseSpec
import DnsModel.Tie.Name
import DnsModel.Tie.Parse
namespace Dns.C02
open Dns

/-- C02.  Parsing succeeds if and only if the packet is well-formed. -/
theorem parse_ok_iff_wf (p : Bytes) : (∃ v, parse p = .ok v) ↔ WF p := Dns.parse_ok_iff_wf p

theorem wf_accepted (p : Bytes) (h : WF p) : ∃ v, parse p = .ok v := (parse_ok_iff_wf p).2 h

/-- what the unchecked readers rely on -/
theorem accepted_wf (p : Bytes) (v : View) (h : parse p = .ok v) : WF p := (parse_ok_iff_wf p).1 ⟨v, h⟩

theorem name_ok_iff_valid (p : Bytes) (off e : Nat) :
    checkCompressedName p off = .ok e ↔ ∃ ls, ValidName p off ls e :=
  checkCompressedName_ok_iff p off e

/-- DNAME targets -/
theorem plain_name_ok_iff (p : Bytes) (off e : Nat) :
    checkUncompressedName p off = .ok e ↔ PlainName p off e :=
  checkUncompressedName_ok_iff p off e

/-! Non-vacuity: a response with a compressed answer and an OPT record is well-formed; one packet per
clause of the policy is not (64-byte label type, pointer to a root label, trailing byte, two OPTs,
answer in a query, A record of 5 bytes). -/
def okPacket : Bytes :=
  [0,7,0x80,0, 0,1, 0,1, 0,0, 0,1,  1,97,0, 0,1, 0,1,  0xc0,12, 0,1, 0,1, 0,0,0,9, 0,4, 1,2,3,4,
   0, 0,41, 4,0xd0, 0,0,0,0, 0,6, 0,10,0,2,7,7]

theorem okPacket_accepted : ∃ v, parse okPacket = .ok v := Res.isOk_iff.1 (by decide +kernel)

example : WF okPacket := (parse_ok_iff_wf okPacket).1 okPacket_accepted

private theorem not_wf_of_err {p : Bytes} {e : Err} (h : parse p = .err e) : ¬ WF p := by
  intro hw
  obtain ⟨v, hv⟩ := (parse_ok_iff_wf p).2 hw
  rw [h] at hv; simp at hv

example : ¬ WF [0,7,0,0, 0,1, 0,0, 0,0, 0,0,  0x40,97,0, 0,1, 0,1] := not_wf_of_err (e := .invalidName) (by decide +kernel)
example : ¬ WF [0,7,0,0, 0,1, 0,0, 0,0, 0,1,  1,97,0, 0,1, 0,1,  0xc0,14, 0,1, 0,1, 0,0,0,0, 0,0] :=
  not_wf_of_err (e := .invalidName) (by decide +kernel)
example : ¬ WF [0,7,0,0, 0,1, 0,0, 0,0, 0,0,  1,97,0, 0,1, 0,1, 0] := not_wf_of_err (e := .invalidPacket) (by decide +kernel)
example : ¬ WF [0,7,0,0, 0,1, 0,0, 0,0, 0,2,  1,97,0, 0,1, 0,1,  0, 0,41, 2,0, 0,0,0,0, 0,0,  0, 0,41, 2,0, 0,0,0,0, 0,0] :=
  not_wf_of_err (e := .invalidPacket) (by decide +kernel)
example : ¬ WF [0,7,0,0, 0,1, 0,1, 0,0, 0,0,  1,97,0, 0,1, 0,1,  0xc0,12, 0,1, 0,1, 0,0,0,9, 0,4, 1,2,3,4] :=
  not_wf_of_err (e := .invalidPacket) (by decide +kernel)
example : ¬ WF [0,7,0x80,0, 0,1, 0,1, 0,0, 0,0,  1,97,0, 0,1, 0,1,  0xc0,12, 0,1, 0,1, 0,0,0,9, 0,5, 1,2,3,4,5] :=
  not_wf_of_err (e := .invalidPacket) (by decide +kernel)

/-! The same statements about the validators translated from the current source text
(`Generated/TrName.lean`, rewritten by rs2lean.py on every run; equalities in `Tie/Name.lean`) -/

theorem source_name_ok_iff_valid (p : Bytes) (off e : Nat) :
    Tr.Name.check_compressed_name p off = .ok e ↔ ∃ ls, ValidName p off ls e := by
  rw [Tie.check_compressed_name_eq]; exact name_ok_iff_valid p off e

theorem source_plain_name_ok_iff (p : Bytes) (off e : Nat) :
    Tr.Name.check_uncompressed_name p off = .ok e ↔ PlainName p off e := by
  rw [Tie.check_uncompressed_name_eq]; exact plain_name_ok_iff p off e

/-- C02 for the source text: `Tr.Sector.parse` translates `DNSSector::parse` and everything it calls
(/repo/src/dns_sector.rs, /repo/src/compress.rs), started on the state `DNSSector::new` builds. -/
theorem source_parse_ok_iff_wf (p : Bytes) :
    (∃ r, Tr.Sector.parse p 0 none none 0 none none none 512 = .ok r) ↔ WF p := by
  rw [Tie.parse_eq, ← parse_ok_iff_wf]
  constructor
  · rintro ⟨r, h⟩
    obtain ⟨v, hv, -⟩ := Res.bind_eq_ok.1 h
    exact ⟨v, hv⟩
  · rintro ⟨v, hv⟩
    exact ⟨_, Res.bind_eq_ok.2 ⟨v, hv, rfl⟩⟩

end Dns.C02
