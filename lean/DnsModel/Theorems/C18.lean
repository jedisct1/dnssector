/-
  C18 — Validation work is linear in the packet size.
  `parseI` (DnsModel/Steps.lean) is the validator instrumented with the step counter that the cfg-guarded hook
  implements in the Rust code: one step per iteration of the two name-walking loops, one per record, one per EDNS
  option — counted on failing paths too.
-/
import DnsModel.Lemmas.StepsBound
import DnsModel.Tie.Name
import DnsModel.Tie.Parse
namespace Dns.C18
open Dns Cnt Sector Res

/-- forgetting the counter gives back the validator of C01/C02 -/
theorem erasure (p : Bytes) : (parseI p).res = parse p := parseI_res p

/-- C18.  For every byte string, the number of elementary steps the validator spends is at most `76 * len + 1095`
(≤ `80 * len + 1200`): no crafted packet makes validation loop or go quadratic. -/
theorem steps_linear (p : Bytes) : (parseI p).steps ≤ 80 * p.length + 1200 :=
  Nat.le_trans (parseI_steps p) (by omega)

/- The counted walkers compute what the translated validators compute (`Generated/TrName.lean`, rewritten by
rs2lean.py on every run), within the per-name budget. -/

theorem source_walkers (p : Bytes) (off : Nat) :
    (checkCompressedNameI p off).res = Tr.Name.check_compressed_name p off ∧
    (checkCompressedNameI p off).steps ≤ DNS_MAX_HOSTNAME_INDIRECTIONS + DNS_MAX_HOSTNAME_LEN + 2 ∧
    (checkUncompressedNameI p off).res = Tr.Name.check_uncompressed_name p off ∧
    (checkUncompressedNameI p off).steps ≤ DNS_MAX_HOSTNAME_INDIRECTIONS + DNS_MAX_HOSTNAME_LEN + 2 :=
  ⟨by rw [Tie.check_compressed_name_eq]; exact checkCompressedNameI_res p off, checkCompressedNameI_steps p off,
   by rw [Tie.check_uncompressed_name_eq]; exact checkUncompressedNameI_res p off, checkUncompressedNameI_steps p off⟩

/-- the counted validator computes what the validator translated from the current source computes -/
theorem source_erasure (p : Bytes) :
    ((parseI p).res >>= fun v => Res.ok (Tie.viewTup p v)) = Tr.Sector.parse p 0 none none 0 none none none 512 := by
  rw [Tie.parse_eq, erasure]

/- non-vacuity: the counter really counts (a question name of one label costs two walker iterations; a pointer
chain costs one per hop) -/
example : (parseI [0,0,0,0, 0,1, 0,0, 0,0, 0,0, 1,97,0, 0,1, 0,1]).steps = 2 := by decide
example : (parseI [0,0,0x80,0, 0,1, 0,1, 0,0, 0,0, 1,97,0, 0,1, 0,1, 0xc0,12, 0,1, 0,1, 0,0,0,0, 0,4, 1,2,3,4]).steps = 6 := by decide

end Dns.C18
