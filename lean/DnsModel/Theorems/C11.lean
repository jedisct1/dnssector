/-
  C11 — Deleting records while iterating is safe, exact and terminates.

  The cursor protocol (a cursor left void by `delete` restarts from the section start with the current count; a live
  cursor advances) on a pointer-free packet object refines the abstract machine `absWalk` on the list of the section's
  records (Lemmas/DeleteWalk.lean: `delWalk_refines_of`, for any step function that walks a selection of the records,
  built on `delWalk_sim`, `PlainObj.delete_at`, `next_some`, `next_none`); the statements of C11 are then facts about
  lists (Lemmas/AbsWalk.lean): `walk_delete_of`, `walk_delete_fresh_of` are the general statements, the four
  `walk_delete*` their instances for the two public walks.

  Proved here for every plain object (what decompression / `recompute` / synthesis + insertion leave:
  `plainObj_of_output`, `insert_*`), the three record sections, every stream of choices: `walk_delete`,
  `second_delete`, `emptied_absent`, `still_accepted`.
  The first deletion on an object that still has its parse-time flag (compressed or not) is `first_delete`:
  decompress, carry the cursor, delete; the result is the plain object of the canonical pieces without the record
  under the cursor, with a void cursor; from there `walk_delete` applies; `walk_delete_parsed` composes the two phases
  (Lemmas/DeleteWalkFresh.lean: until the first deletion the object is untouched and the cursor walks the parsed
  records).
  `walk_delete_skipping_opt` is the statement for the public `next()` walk over an additional section that holds an
  OPT record (`walks_skip`: the walker sees the other records; OPT stays).  `walk_delete_parsed_skipping_opt` is the
  same walk started on a freshly parsed (possibly compressed) packet (`freshWalks_skip`: until the first deletion the
  walker sees the parsed records other than OPT; the first deletion decompresses; then as on a plain object).
  Not covered by a theorem: the question section (KF1: by design the result is rejected by the parser; covered by
  the exhaustive correspondence walks).
-/
import DnsModel.Tie.Counts
import DnsModel.Lemmas.DeleteWalkFresh
import DnsModel.Theorems.C02
import DnsModel.Theorems.C05
namespace Dns.C11
open Dns Res

/-- steps that suffice for a section of `n` records -/
def fuelFor (n : Nat) : Nat := (n + 1) * (n + 1) + n + 1

/-- the records of a section, numbered so that equal records stay distinguishable -/
def numbered (xs : List Bytes) : List (Bytes × Nat) := xs.zipIdx

theorem numbered_nodup (xs : List Bytes) : (numbered xs).Nodup := by
  have h : ((numbered xs).map Prod.snd).Nodup := by
    unfold numbered
    rw [List.zipIdx_map_snd]
    exact List.nodup_range' 1
  unfold List.Nodup at h ⊢
  rw [List.pairwise_map] at h
  exact h.imp (fun hne heq => hne (by rw [heq]))

theorem numbered_all {xs : List Bytes} {l : List (Bytes × Nat)} (hs : l.Sublist (numbered xs)) (h : l.map (·.1) = xs) :
    l = numbered xs := by
  have hl := congrArg List.length h
  rw [List.length_map] at hl
  exact hs.eq_of_length (hl.trans List.length_zipIdx.symm)

/-- `r` is the run of the abstract machine over the numbered records `xs`, with what C11 says of it: survivors in
their original order, deleted ones plus survivors being the original records, a deleted record never yielded again
nor left, every survivor yielded and kept -/
def NumberedRun (choose : Nat → Bool) (xs : List Bytes) (r : List (Bytes × Nat) × List ((Bytes × Nat) × Bool)) : Prop :=
  absWalk choose (fuelFor xs.length) 0 (numbered xs) 0 = some r ∧
  r.1.Sublist (numbered xs) ∧ (((r.2.filter (·.2)).map (·.1)) ++ r.1).Perm (numbered xs) ∧
  (∀ l1 l2 a, r.2 = l1 ++ (a, true) :: l2 → a ∉ l2.map (·.1) ∧ a ∉ r.1) ∧ (∀ a ∈ r.1, (a, false) ∈ r.2)

/-- there is such a run, and the same run over the records themselves is what the walker refines -/
theorem numbered_run (choose : Nat → Bool) (xs : List Bytes) :
    ∃ r, NumberedRun choose xs r ∧
      absWalk choose (fuelFor xs.length) 0 xs 0 = some (r.1.map (·.1), r.2.map (fun e => (e.1.1, e.2))) := by
  have hlen : (numbered xs).length = xs.length := List.length_zipIdx
  obtain ⟨r, hr⟩ := Option.isSome_iff_exists.1 (absWalk_terminates choose (fuelFor xs.length) 0 (numbered xs) 0
    (by rw [hlen, fuelFor]; omega))
  have hmap := absWalk_map Prod.fst choose (fuelFor xs.length) 0 (numbered xs) 0
  rw [hr, numbered, List.zipIdx_map_fst] at hmap
  refine ⟨r, ⟨hr, (absWalk_sublist choose _ _ _ _ _ hr).1, absWalk_perm choose _ _ _ _ _ hr,
    absWalk_deleted_gone choose _ _ _ _ _ (numbered_nodup xs) hr, fun a ha => ?_⟩, hmap⟩
  exact (absWalk_yields_survivors choose _ _ _ _ _ hr a ha).resolve_left (fun h0 => nomatch h0)

/-- C11 on a plain object, for any step function that walks the records `keep` selects: the run terminates; the walker
yields what the machine yields over those records and leaves of them what the machine leaves; everything else is
untouched -/
theorem walk_delete_of {pp : PP} (P : PlainObj pp) {sec : Section} (hs : sec.isRec = true)
    {step : PP → Cursor → Res (Option Cursor)} {keep : Bytes → Bool} (W : Walks step sec keep) (choose : Nat → Bool)
    (c : Cursor) (hc : c.sec = sec) (hv : c.offset = none) :
    ∃ (pp' : PP) (P' : PlainObj pp') (r : List (Bytes × Nat) × List ((Bytes × Nat) × Bool)),
      NumberedRun choose ((P.lst sec).filter keep) r ∧
      delWalk step choose (fuelFor ((P.lst sec).filter keep).length) 0 pp c = .ok (pp', r.2.map (fun e => (e.1.1, e.2))) ∧
      (P'.lst sec).filter keep = r.1.map (·.1) ∧ P.SameBut P' sec keep := by
  obtain ⟨r, hr, hmap⟩ := numbered_run choose ((P.lst sec).filter keep)
  obtain ⟨pp', P', hw, e, hfr⟩ := delWalk_refines_of hs W choose _ 0 P c 0 ⟨hc, Or.inl ⟨hv, rfl⟩⟩ hmap
  exact ⟨pp', P', r, hr, hw, e, hfr⟩

/-- C11 on an object that still has its parse-time flag, for any such step function: the keep/delete decisions are the
machine's over the canonical pieces `keep` selects; if nothing was deleted the object is untouched, otherwise it is a
plain object holding what the machine left of them and, for the rest, the canonical pieces of the input -/
theorem walk_delete_fresh_of {pp : PP} {p : Bytes} {v : View} (F : Fresh pp p v) (L : C03.Layout p) (o : C05.Output p L)
    {sec : Section} (hs : sec.isRec = true) {step : PP → Cursor → Res (Option Cursor)} {keep : Bytes → Bool}
    (WF : FreshWalks step pp L o sec keep) (W : Walks step sec keep) (choose : Nat → Bool)
    (c : Cursor) (hc : c.sec = sec) (hv : c.offset = none) :
    ∃ (pp' : PP) (log : List (Bytes × Bool)) (r : List (Bytes × Nat) × List ((Bytes × Nat) × Bool)),
      NumberedRun choose ((o.pieces sec).filter keep) r ∧
      delWalk step choose (fuelFor ((o.pieces sec).filter keep).length) 0 pp c = .ok (pp', log) ∧
      log.map (·.2) = r.2.map (·.2) ∧
      ((pp' = pp ∧ r.1 = numbered ((o.pieces sec).filter keep)) ∨
       ∃ P' : PlainObj pp', (P'.lst sec).filter keep = r.1.map (·.1) ∧ FromPieces o sec keep P') := by
  obtain ⟨r, hr, hmap⟩ := numbered_run choose ((o.pieces sec).filter keep)
  obtain ⟨pp', log, hw, hl, hres⟩ := delWalk_fresh_refines_of F L o hs WF W choose _ 0 c 0 ⟨hc, Or.inl ⟨hv, rfl⟩⟩ hmap
  refine ⟨pp', log, r, hr, hw, by rw [hl, List.map_map]; rfl, ?_⟩
  rcases hres with ⟨h1, h2, _⟩ | hplain
  · exact .inl ⟨h1, numbered_all hr.2.1 h2⟩
  · exact .inr hplain

/-- C11 for a plain object, a record section `sec`, the public walk (`next`, OPT-skipping, for the answer and authority
sections; the OPT-including walk for all three) and any stream of choices: the walk-and-delete run terminates without
error or panic; the walker yields exactly the records a run `r` of the abstract machine over the numbered records
yields; afterwards the section holds exactly what the machine left (the clauses of `NumberedRun`, written out); the
other sections, the question and the other header fields are untouched; the result is again a plain object (see
`emptied_absent`, `still_accepted`) -/
theorem walk_delete {pp : PP} (P : PlainObj pp) (sec : Section) (hs : sec.isRec = true)
    (step : PP → Cursor → Res (Option Cursor))
    (hstep : step = nextIncludingOpt ∨ (step = nextSkippingOpt ∧ sec ≠ .additional))
    (choose : Nat → Bool) (c : Cursor) (hc : c.sec = sec) (hv : c.offset = none) :
    ∃ (pp' : PP) (P' : PlainObj pp') (r : List (Bytes × Nat) × List ((Bytes × Nat) × Bool)),
      absWalk choose (fuelFor (P.lst sec).length) 0 (numbered (P.lst sec)) 0 = some r ∧
      delWalk step choose (fuelFor (P.lst sec).length) 0 pp c = .ok (pp', r.2.map (fun e => (e.1.1, e.2))) ∧
      P'.lst sec = r.1.map (·.1) ∧ r.1.Sublist (numbered (P.lst sec)) ∧
      (((r.2.filter (·.2)).map (·.1)) ++ r.1).Perm (numbered (P.lst sec)) ∧
      (∀ l1 l2 a, r.2 = l1 ++ (a, true) :: l2 → a ∉ l2.map (·.1) ∧ a ∉ r.1) ∧
      (∀ a ∈ r.1, (a, false) ∈ r.2) ∧
      (∀ s, s ≠ sec → P'.lst s = P.lst s) ∧ P'.qls = P.qls ∧ P'.q4 = P.q4 ∧
      (∀ i, (i + 1 < sectionCountOffset sec ∨ sectionCountOffset sec + 1 < i) → get16 P'.hdr i = get16 P.hdr i) := by
  have h := walk_delete_of P hs (Walks.of_public hs hstep) choose c hc hv
  simp only [filter_all] at h
  obtain ⟨pp', P', r, ⟨h1, h2, h3, h4, h5⟩, hw, e, _, hrest⟩ := h
  exact ⟨pp', P', r, h1, hw, e, h2, h3, h4, h5, hrest⟩

/-- C11: a second deletion through the same cursor reports a void record and touches nothing -/
theorem second_delete {pp : PP} (P : PlainObj pp) (sec : Section) (hs : sec.isRec = true) {ps1 ps2 : List Bytes} {rc : Bytes}
    (hsplit : P.lst sec = ps1 ++ rc :: ps2) (c : Cursor) {ne : Nat} {ob oa : Bool}
    (hr : RRAtPos pp.packet sec ⟨P.start sec + ps1.flatten.length, ne, P.start sec + ps1.flatten.length + rc.length⟩ ob oa)
    (hoff : c.offset = some (P.start sec + ps1.flatten.length))
    (hnext : c.offsetNext = P.start sec + ps1.flatten.length + rc.length) (hne : c.nameEnd = ne) :
    ∃ st, deleteRR pp c = .ok st ∧ st.result = none ∧
      deleteRR st.pp st.cur = .ok { pp := st.pp, cur := st.cur, result := some .voidRecord } := by
  obtain ⟨pp', P', hdel, _⟩ := P.delete_at sec hs hsplit c hr hoff hnext hne
  exact ⟨_, hdel, rfl, delete_void _ _ rfl⟩

/-- deleting through a void cursor (nothing yielded yet, or already deleted) never touches anything -/
theorem delete_void_untouched (pp : PP) (c : Cursor) (h : c.offset = none) :
    deleteRR pp c = .ok { pp := pp, cur := c, result := some .voidRecord } := delete_void pp c h

/-- C11, count and presence: in a plain object (hence after every walk of `walk_delete`) the header count of each record
section is its number of records, and the section start is absent exactly when the section is empty -/
theorem emptied_absent {pp : PP} (P : PlainObj pp) :
    get16 (pp.packet.take 12) 6 = (P.lst .answer).length ∧ get16 (pp.packet.take 12) 8 = (P.lst .nameServers).length ∧
    get16 (pp.packet.take 12) 10 = (P.lst .additional).length ∧
    (pp.offsetAnswers = none ↔ P.lst .answer = []) ∧ (pp.offsetNameservers = none ↔ P.lst .nameServers = []) ∧
    (pp.offsetAdditional = none ↔ P.lst .additional = []) := by
  rw [get16_take (by decide), get16_take (by decide), get16_take (by decide), P.hdr_get16 (by decide), P.hdr_get16 (by decide),
    P.hdr_get16 (by decide)]
  have absent : ∀ (l : List Bytes) (x : Nat), (if l.length > 0 then some x else none) = none ↔ l = [] := fun l x => by
    cases l <;> simp
  exact ⟨P.hca, P.hcn, P.hcr, P.oa ▸ absent _ _, P.on ▸ absent _ _, P.oR ▸ absent _ _⟩

/-- a plain object's bytes are accepted by the parser, and the parser reports the section starts the
object holds -/
theorem still_accepted {pp : PP} (P : PlainObj pp) :
    ∃ v, parse pp.packet = .ok v ∧ v.offsetQuestion = pp.offsetQuestion ∧ v.offsetAnswers = pp.offsetAnswers ∧
      v.offsetNameservers = pp.offsetNameservers ∧ v.offsetAdditional = pp.offsetAdditional := by
  obtain ⟨v, hv⟩ := C02.wf_accepted _ P.wf
  exact ⟨v, hv, P.parsed_starts hv⟩

/-- decompressing (or `recompute`-ing) any accepted packet leaves a plain object whose sections are the canonical forms
of the packet's records: the theorems above are about every message the parser accepts -/
theorem plain_of_accepted {p : Bytes} {v : View} (h : parse p = .ok v) (pp0 : PP) :
    ∃ (L : C03.Layout p) (o : C05.Output p L) (v2 : View), uncompress p = .ok o.bytes ∧ parse o.bytes = .ok v2 ∧
      ∃ P : PlainObj (pp0.rebased o.bytes v2), P.lst .answer = o.pa ∧ P.lst .nameServers = o.pn ∧ P.lst .additional = o.pr := by
  obtain ⟨L, o, hu⟩ := C05.decompress_ok h
  obtain ⟨v2, h2⟩ := C05.decompressed_accepted h hu
  obtain ⟨P, e1, e2, e3, _⟩ := plainObj_of_output h o h2 pp0
  exact ⟨L, o, v2, hu, h2, P, e1, e2, e3⟩

/-- C11, the first deletion on a freshly parsed object (pointers or not): `delete` decompresses, carries the cursor to
the record's canonical form and removes exactly it; the cursor is left void, question and other header fields are
those of the input -/
theorem first_delete {p : Bytes} {v : View} (h : parse p = .ok v) (L : C03.Layout p) (o : C05.Output p L)
    (sec : Section) (hs : sec.isRec = true) {l1 l2 : List RecPos} {r : RecPos} {ps1 ps2 : List Bytes} {pc : Bytes}
    (hl : L.recs sec = l1 ++ r :: l2) (hp : o.pieces sec = ps1 ++ pc :: ps2) (hlen : l1.length = ps1.length)
    (c : Cursor) (hsec : c.sec = sec) (hoff : c.offset = some r.off) :
    ∃ (pp' : PP) (P' : PlainObj pp') (c' : Cursor),
      deleteRR (PP.ofView p v) c = .ok { pp := pp', cur := c', result := none } ∧ c'.offset = none ∧ c'.sec = sec ∧
      P'.lst sec = ps1 ++ ps2 ∧ (∀ s, s ≠ sec → P'.lst s = o.pieces s) ∧
      o.qc = (encLabels P'.qls ++ [0]) ++ P'.q4 ∧
      (∀ k, (k + 1 < sectionCountOffset sec ∨ sectionCountOffset sec + 1 < k) → get16 P'.hdr k = get16 (p.take 12) k) :=
  delete_fresh (fresh_ofView h) L o sec hs hl hp hlen c hsec hoff

/-- C11 for a freshly parsed packet (compressed or not): as `walk_delete`, with a run `r` of the abstract machine over
the numbered canonical forms of the section's records that takes the same keep/delete decisions at every yield; if
nothing was deleted the object is untouched; otherwise the result is the plain object whose section holds exactly
what the machine left, the other sections holding the canonical forms of their records, question and other header
fields as in the input -/
theorem walk_delete_parsed {p : Bytes} {v : View} (h : parse p = .ok v) (L : C03.Layout p) (o : C05.Output p L)
    (sec : Section) (hs : sec.isRec = true) (step : PP → Cursor → Res (Option Cursor))
    (hstep : step = nextIncludingOpt ∨ (step = nextSkippingOpt ∧ sec ≠ .additional))
    (choose : Nat → Bool) (c : Cursor) (hc : c.sec = sec) (hv : c.offset = none) :
    ∃ (pp' : PP) (log : List (Bytes × Bool)) (r : List (Bytes × Nat) × List ((Bytes × Nat) × Bool)),
      absWalk choose (fuelFor (o.pieces sec).length) 0 (numbered (o.pieces sec)) 0 = some r ∧
      delWalk step choose (fuelFor (o.pieces sec).length) 0 (PP.ofView p v) c = .ok (pp', log) ∧
      log.map (·.2) = r.2.map (·.2) ∧
      r.1.Sublist (numbered (o.pieces sec)) ∧
      (((r.2.filter (·.2)).map (·.1)) ++ r.1).Perm (numbered (o.pieces sec)) ∧
      (∀ l1 l2 a, r.2 = l1 ++ (a, true) :: l2 → a ∉ l2.map (·.1) ∧ a ∉ r.1) ∧
      (∀ a ∈ r.1, (a, false) ∈ r.2) ∧
      ((pp' = PP.ofView p v ∧ r.1 = numbered (o.pieces sec)) ∨
       (∃ P' : PlainObj pp', P'.lst sec = r.1.map (·.1) ∧ (∀ s, s ≠ sec → P'.lst s = o.pieces s) ∧
          o.qc = (encLabels P'.qls ++ [0]) ++ P'.q4 ∧
          (∀ i, (i + 1 < sectionCountOffset sec ∨ sectionCountOffset sec + 1 < i) → get16 P'.hdr i = get16 (p.take 12) i))) := by
  have F := fresh_ofView h
  have h := walk_delete_fresh_of F L o hs (FreshWalks.of_public F L o hs hstep) (Walks.of_public hs hstep) choose c hc hv
  simp only [filter_all] at h
  obtain ⟨pp', log, r, ⟨h1, h2, h3, h4, h5⟩, hw, hl, hres⟩ := h
  exact ⟨pp', log, r, h1, hw, hl, h2, h3, h4, h5, hres.imp id (fun ⟨P', e, _, hrest⟩ => ⟨P', e, hrest⟩)⟩

/-- C11 for the public walk over the additional section (`next()`, which skips the OPT record) of a plain object that
may hold an OPT record: the run terminates; the walker sees exactly the records other than OPT (`vis`) and does on
them what the abstract machine does; the OPT record is where it was, everything else is untouched -/
theorem walk_delete_skipping_opt {pp : PP} (P : PlainObj pp) (choose : Nat → Bool) (c : Cursor)
    (hc : c.sec = .additional) (hv : c.offset = none) :
    ∃ (pp' : PP) (P' : PlainObj pp') (r : List (Bytes × Nat) × List ((Bytes × Nat) × Bool)),
      absWalk choose (fuelFor (vis (P.lst .additional)).length) 0 (numbered (vis (P.lst .additional))) 0 = some r ∧
      delWalk nextSkippingOpt choose (fuelFor (vis (P.lst .additional)).length) 0 pp c = .ok (pp', r.2.map (fun e => (e.1.1, e.2))) ∧
      vis (P'.lst .additional) = r.1.map (·.1) ∧
      (P'.lst .additional).filter isOptPiece = (P.lst .additional).filter isOptPiece ∧
      r.1.Sublist (numbered (vis (P.lst .additional))) ∧
      (((r.2.filter (·.2)).map (·.1)) ++ r.1).Perm (numbered (vis (P.lst .additional))) ∧
      (∀ l1 l2 a, r.2 = l1 ++ (a, true) :: l2 → a ∉ l2.map (·.1) ∧ a ∉ r.1) ∧
      (∀ a ∈ r.1, (a, false) ∈ r.2) ∧
      (∀ s, s ≠ .additional → P'.lst s = P.lst s) ∧ P'.qls = P.qls ∧ P'.q4 = P.q4 ∧
      (∀ i, (i + 1 < 10 ∨ 11 < i) → get16 P'.hdr i = get16 P.hdr i) := by
  obtain ⟨pp', P', r, ⟨h1, h2, h3, h4, h5⟩, hw, e, hopt, hrest⟩ := walk_delete_of P rfl walks_skip choose c hc hv
  simp only [Bool.not_not] at hopt
  exact ⟨pp', P', r, h1, hw, e, hopt, h2, h3, h4, h5, hrest⟩

/-- an accepted packet has at most one OPT record: the canonical piece after the OPT piece is not one -/
theorem opt_once {p : Bytes} {v : View} (h : parse p = .ok v) (L : C03.Layout p) (o : C05.Output p L) :
    ∀ j (hj : j < (o.pieces .additional).length), isOptPiece (o.pieces .additional)[j] = true →
      ∀ (hj1 : j + 1 < (o.pieces .additional).length), isOptPiece (o.pieces .additional)[j + 1] = false := by
  obtain ⟨v2, h2⟩ := C02.wf_accepted _ (C05.output_layout h o).1
  obtain ⟨P, _, _, e3, _⟩ := plainObj_of_output h o h2 (PP.ofView p v)
  intro j hj hopt hj1
  have e : P.R = o.pieces .additional := e3
  exact (others_visible P (by rw [e]; exact split_at (o.pieces .additional) j hj) hopt).2 _
    (List.mem_of_getElem (i := 0) (h := by rw [List.length_drop]; omega) (by rw [List.getElem_drop]))

/-- C11 for the public `next()` walk over the additional section of a freshly parsed packet (compressed or not, with or
without an OPT record): as `walk_delete_parsed`, over the canonical forms of the records other than OPT; the OPT
piece is where it was -/
theorem walk_delete_parsed_skipping_opt {p : Bytes} {v : View} (h : parse p = .ok v) (L : C03.Layout p) (o : C05.Output p L)
    (choose : Nat → Bool) (c : Cursor) (hc : c.sec = .additional) (hv : c.offset = none) :
    ∃ (pp' : PP) (log : List (Bytes × Bool)) (r : List (Bytes × Nat) × List ((Bytes × Nat) × Bool)),
      absWalk choose (fuelFor (vis (o.pieces .additional)).length) 0 (numbered (vis (o.pieces .additional))) 0 = some r ∧
      delWalk nextSkippingOpt choose (fuelFor (vis (o.pieces .additional)).length) 0 (PP.ofView p v) c = .ok (pp', log) ∧
      log.map (·.2) = r.2.map (·.2) ∧
      r.1.Sublist (numbered (vis (o.pieces .additional))) ∧
      (((r.2.filter (·.2)).map (·.1)) ++ r.1).Perm (numbered (vis (o.pieces .additional))) ∧
      (∀ l1 l2 a, r.2 = l1 ++ (a, true) :: l2 → a ∉ l2.map (·.1) ∧ a ∉ r.1) ∧
      (∀ a ∈ r.1, (a, false) ∈ r.2) ∧
      ((pp' = PP.ofView p v ∧ r.1 = numbered (vis (o.pieces .additional))) ∨
       (∃ P' : PlainObj pp', vis (P'.lst .additional) = r.1.map (·.1) ∧
          (P'.lst .additional).filter isOptPiece = (o.pieces .additional).filter isOptPiece ∧
          (∀ s, s ≠ .additional → P'.lst s = o.pieces s) ∧
          o.qc = (encLabels P'.qls ++ [0]) ++ P'.q4 ∧
          (∀ i, (i + 1 < 10 ∨ 11 < i) → get16 P'.hdr i = get16 (p.take 12) i))) := by
  have F := fresh_ofView h
  obtain ⟨pp', log, r, ⟨h1, h2, h3, h4, h5⟩, hw, hl, hres⟩ :=
    walk_delete_fresh_of F L o rfl (freshWalks_skip F L o (opt_once h L o)) walks_skip choose c hc hv
  refine ⟨pp', log, r, h1, hw, hl, h2, h3, h4, h5, hres.imp id (fun ⟨P', e, hopt, hrest⟩ => ⟨P', e, ?_, hrest⟩)⟩
  simpa only [Bool.not_not] using hopt

/-- the machine on a small case: three records, the first and the third chosen -/
example : absWalk (fun k => k == 0 || k == 2) (fuelFor 3) 0 [10, 20, 30] 0 =
    some ([20], [(10, true), (20, false), (30, true), (20, false)]) := by decide

/-- tie to the current source text: `rrcount_inc`, `rrcount_dec`, `insertion_offset` of parsed_packet.rs with the
`set_*count` writers of dns_sector.rs, re-translated on every run (`Generated/TrCounts.lean`, `Tie/Counts.lean`) -/
theorem source_counts_tie (pp : PP) (s : Section) :
    (Tr.Counts.rrcount_inc pp.packet s >>= fun r => Res.ok r.2) = (rrcountInc pp s >>= Tie.incResult) ∧
    Tr.Counts.rrcount_dec pp.packet s = (rrcountDec pp s >>= fun r => Res.ok (r.2, r.1.packet)) ∧
    Tr.Counts.insertion_offset pp.packet pp.offsetAnswers pp.offsetNameservers pp.offsetAdditional s
      = insertionOffset pp s :=
  ⟨Tie.rrcount_inc_eq pp s, Tie.rrcount_dec_eq pp s, Tie.insertion_offset_eq pp s⟩

end Dns.C11
