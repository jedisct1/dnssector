/-
  Every Rust function of dnssector is modelled as a total function into `Res α`: `ok v`, `err kind` (a `DSError`
  variant), `panic` (slice index out of range, arithmetic under/overflow in a debug build, failed `assert!`,
  `unwrap` on `None`) or `diverge` (the fuel given to a loop ran out).
-/
namespace Dns

abbrev Bytes := List UInt8

/-- `errors.rs: DSError`, payloads dropped (messages are not compared) -/
inductive Err
  | packetTooSmall | packetTooLarge | unsupportedClass | internalError | invalidName
  | invalidPacket | unsupportedRRType | unsupportedRRClass | voidRecord | propertyNotFound
  | wrongAddressFamily | parseError
  deriving Repr, DecidableEq, Inhabited

def Err.name : Err → String
  | .packetTooSmall => "PacketTooSmall" | .packetTooLarge => "PacketTooLarge"
  | .unsupportedClass => "UnsupportedClass" | .internalError => "InternalError"
  | .invalidName => "InvalidName" | .invalidPacket => "InvalidPacket"
  | .unsupportedRRType => "UnsupportedRRType" | .unsupportedRRClass => "UnsupportedRRClass"
  | .voidRecord => "VoidRecord" | .propertyNotFound => "PropertyNotFound"
  | .wrongAddressFamily => "WrongAddressFamily" | .parseError => "ParseError"

inductive Res (α : Type) where
  | ok (a : α) | err (e : Err) | panic | diverge
  deriving Repr, DecidableEq, Inhabited

namespace Res
@[inline] def bind {α β : Type} (x : Res α) (f : α → Res β) : Res β :=
  match x with
  | .ok a => f a
  | .err e => .err e
  | .panic => .panic
  | .diverge => .diverge

instance : Monad Res where
  pure := .ok
  bind := Res.bind

@[simp] theorem pure_eq {α} (a : α) : (pure a : Res α) = .ok a := rfl
@[simp] theorem bind_ok {α β} (a : α) (f : α → Res β) : (Res.ok a >>= f) = f a := rfl
@[simp] theorem bind_err {α β} (e : Err) (f : α → Res β) : (Res.err e >>= f) = .err e := rfl
@[simp] theorem bind_panic {α β} (f : α → Res β) : ((Res.panic : Res α) >>= f) = .panic := rfl
@[simp] theorem bind_diverge {α β} (f : α → Res β) : ((Res.diverge : Res α) >>= f) = .diverge := rfl
@[simp] theorem bind_def {α β} (x : Res α) (f : α → Res β) : Res.bind x f = (x >>= f) := rfl

def Returns {α} (x : Res α) : Prop := x ≠ .panic ∧ x ≠ .diverge

def isOk {α} : Res α → Bool | .ok _ => true | _ => false

theorem bind_eq_ok {α β} {x : Res α} {f : α → Res β} {b : β} :
    (x >>= f) = .ok b ↔ ∃ a, x = .ok a ∧ f a = .ok b := by
  cases x <;> simp

theorem bind_ne_panic {α β} {x : Res α} {f : α → Res β}
    (h1 : x ≠ .panic) (h2 : ∀ a, x = .ok a → f a ≠ .panic) : (x >>= f) ≠ .panic := by
  cases x <;> simp_all

theorem bind_ne_diverge {α β} {x : Res α} {f : α → Res β}
    (h1 : x ≠ .diverge) (h2 : ∀ a, x = .ok a → f a ≠ .diverge) : (x >>= f) ≠ .diverge := by
  cases x <;> simp_all

theorem bind_returns {α β} {x : Res α} {f : α → Res β}
    (h1 : x.Returns) (h2 : ∀ a, x = .ok a → (f a).Returns) : (x >>= f).Returns := by
  cases x <;> simp_all [Returns]

theorem returns_ok {α} (a : α) : (Res.ok a).Returns := by simp [Returns]
theorem returns_err {α} (e : Err) : (Res.err e : Res α).Returns := by simp [Returns]

theorem returns_cases {α} {x : Res α} (h : x.Returns) : (∃ a, x = .ok a) ∨ (∃ e, x = .err e) := by
  cases x <;> simp_all [Returns]
end Res

/-- `if c { bail!(e) }` -/
@[inline] def failIf (c : Bool) (e : Err) : Res Unit := if c then .err e else .ok ()

/-- `assert!(c)` -/
@[inline] def assert (c : Bool) : Res Unit := if c then .ok () else .panic

def byteAt (p : Bytes) (i : Nat) : Option Nat := (p[i]?).map (·.toNat)

theorem byteAt_lt {p : Bytes} {i b : Nat} (h : byteAt p i = some b) : b < 256 := by
  unfold byteAt at h
  cases hp : p[i]? with
  | none => simp [hp] at h
  | some x => simp [hp] at h; subst h; exact x.toNat_lt

theorem byteAt_lt_length {p : Bytes} {i b : Nat} (h : byteAt p i = some b) : i < p.length := by
  unfold byteAt at h
  cases hp : p[i]? with
  | none => simp [hp] at h
  | some x => exact (List.getElem?_eq_some_iff.1 hp).1

theorem byteAt_of_lt {p : Bytes} {i : Nat} (h : i < p.length) : ∃ b, byteAt p i = some b ∧ b < 256 := by
  unfold byteAt
  simp [List.getElem?_eq_getElem h]
  exact (p[i]).toNat_lt

/-- `p[i]` on a Rust slice -/
def idx (p : Bytes) (i : Nat) : Res Nat := match byteAt p i with | some b => .ok b | none => .panic

theorem idx_ok_of_lt {p : Bytes} {i : Nat} (h : i < p.length) : ∃ b, idx p i = .ok b ∧ b < 256 := by
  obtain ⟨b, hb, hlt⟩ := byteAt_of_lt h
  exact ⟨b, by simp [idx, hb], hlt⟩

theorem idx_ok_iff {p : Bytes} {i b : Nat} : idx p i = .ok b ↔ byteAt p i = some b := by
  unfold idx; cases h : byteAt p i <;> simp

theorem idx_of_byteAt {p : Bytes} {i b : Nat} (h : byteAt p i = some b) : idx p i = .ok b := idx_ok_iff.2 h

theorem idx_cases (p : Bytes) (i : Nat) :
    (∃ b, idx p i = .ok b ∧ byteAt p i = some b ∧ b < 256) ∨ idx p i = .panic := by
  unfold idx; cases h : byteAt p i with
  | none => right; rfl
  | some b => left; exact ⟨b, rfl, rfl, byteAt_lt h⟩

theorem idx_ne_diverge (p : Bytes) (i : Nat) : idx p i ≠ .diverge := by
  unfold idx; cases byteAt p i <;> simp

theorem idx_ne_err (p : Bytes) (i : Nat) (e : Err) : idx p i ≠ .err e := by
  unfold idx; cases byteAt p i <;> simp

/-- `BigEndian::read_u16(&p[i..])` -/
def be16 (p : Bytes) (i : Nat) : Res Nat := do
  let hi ← idx p i
  let lo ← idx p (i + 1)
  pure (hi * 256 + lo)

/-- `BigEndian::read_u32(&p[i..])` -/
def be32 (p : Bytes) (i : Nat) : Res Nat := do
  let a ← be16 p i
  let b ← be16 p (i + 2)
  pure (a * 65536 + b)

/-- non-panicking reads for the specification side: a byte out of range reads as 0 -/
def getB (p : Bytes) (i : Nat) : Nat := (byteAt p i).getD 0
def get16 (p : Bytes) (i : Nat) : Nat := getB p i * 256 + getB p (i + 1)
def get32 (p : Bytes) (i : Nat) : Nat := get16 p i * 65536 + get16 p (i + 2)

theorem be16_ok_of_le {p : Bytes} {i : Nat} (h : i + 2 ≤ p.length) :
    be16 p i = .ok (get16 p i) ∧ get16 p i < 65536 := by
  obtain ⟨a, ha, hal⟩ := byteAt_of_lt (p := p) (i := i) (by omega)
  obtain ⟨b, hb, hbl⟩ := byteAt_of_lt (p := p) (i := i + 1) (by omega)
  simp [be16, get16, getB, idx, ha, hb]
  omega

theorem get16_lt (p : Bytes) (i : Nat) : get16 p i < 65536 := by
  unfold get16 getB
  have h1 : (byteAt p i).getD 0 < 256 := by
    cases h : byteAt p i with
    | none => simp
    | some b => simpa using byteAt_lt h
  have h2 : (byteAt p (i+1)).getD 0 < 256 := by
    cases h : byteAt p (i+1) with
    | none => simp
    | some b => simpa using byteAt_lt h
  omega

theorem be16_cases (p : Bytes) (i : Nat) :
    (i + 2 ≤ p.length ∧ be16 p i = .ok (get16 p i)) ∨ (p.length < i + 2 ∧ be16 p i = .panic) := by
  by_cases h : i + 2 ≤ p.length
  · left; exact ⟨h, (be16_ok_of_le h).1⟩
  · right
    refine ⟨by omega, ?_⟩
    unfold be16
    rcases idx_cases p i with ⟨a, ha, hba, _⟩ | hp
    · have hi := byteAt_lt_length hba
      have : byteAt p (i+1) = none := by
        unfold byteAt
        have : p.length ≤ i + 1 := by omega
        simp [List.getElem?_eq_none this]
      have h2 : idx p (i+1) = .panic := by simp [idx, this]
      simp [ha, h2]
    · simp [hp]

/-- `a - b` on `usize` in a debug build -/
def sub (a b : Nat) : Res Nat := if b ≤ a then .ok (a - b) else .panic

/-- `&p[a..b]` -/
def slice (p : Bytes) (a b : Nat) : Res Bytes :=
  if a ≤ b ∧ b ≤ p.length then .ok ((p.drop a).take (b - a)) else .panic

/-- `&p[a..]` -/
def sliceFrom (p : Bytes) (a : Nat) : Res Bytes :=
  if a ≤ p.length then .ok (p.drop a) else .panic

def isPtr (b : Nat) : Bool := b &&& 0xc0 == 0xc0
theorem isPtr_iff' (b : Nat) (h : b < 256) : isPtr b = true ↔ 192 ≤ b := by
  have : ∀ b : Fin 256, isPtr b.val = decide (b.val ≥ 192) := by decide +kernel
  have := this ⟨b, h⟩
  simp at this
  rw [this]; simp

def put16 (v : Nat) : Bytes := [UInt8.ofNat (v / 256 % 256), UInt8.ofNat (v % 256)]
def put32 (v : Nat) : Bytes := put16 (v / 65536 % 65536) ++ put16 (v % 65536)

/-- `p[i .. i + v.len()].copy_from_slice(v)` -/
def writeAt (p : Bytes) (i : Nat) (v : Bytes) : Res Bytes :=
  if i + v.length ≤ p.length then .ok (p.take i ++ v ++ p.drop (i + v.length)) else .panic

def toLowerB (c : UInt8) : UInt8 := if 65 ≤ c.toNat ∧ c.toNat ≤ 90 then UInt8.ofNat (c.toNat + 32) else c
def lowerBytes (b : Bytes) : Bytes := b.map toLowerB

end Dns
